import Pathrs.Proofs.Rely
import Pathrs.Proofs.Exec

/-!
# `mkdir_all`'s creating loop creates exactly the missing directories (sequential refinement against `KS`)

`KS` (Rely.lean) is the mutable kernel state of the creating loop: directory entries, kinds, the id allocator, with the
kernel's answers (`KS.answer`) and effects (`KS.effect`).  `execK` runs a program against it, threading the state.
`chainAdd w cur parts` is the state in which exactly the components of `parts` that are missing below `cur` have been
created, one `mkdirat` each, in order — nothing else differs from `w`.
-/

namespace MkExact

def execK {α : Type} (w : KS) : Prog α → KS × α
  | .ret a => (w, a)
  | .call c k => execK (w.effect c) (k (w.answer c))

def chainAdd (w : KS) (cur : Fd) : List Bytes → KS
  | [] => w
  | p :: rest =>
    match w.child cur p with
    | some c => chainAdd w c rest
    | none => chainAdd (w.effect (.mkdirat cur p 0)) w.next rest

/-! ## `execK` is `Prog.runState` of the kernel's step -/

abbrev _root_.KS.step (w : KS) (c : Call) : KS × Resp := (w.effect c, w.answer c)

theorem execK_eq {α : Type} (w : KS) (p : Prog α) : execK w p = Prog.runState KS.step p w := by
  induction p generalizing w with
  | ret a => rfl
  | call c k ih => exact ih _ _

theorem execK_ret {α : Type} (w : KS) (a : α) : execK w (Prog.ret a) = (w, a) := rfl
theorem execK_pure {α : Type} (w : KS) (a : α) : execK w (pure a : M α) = (w, Except.ok a) := rfl
theorem execK_throw {α : Type} (w : KS) (e : Err) : execK w (throw e : M α) = (w, Except.error e) := rfl

theorem execK_mbind_err {α β : Type} {w w' : KS} {p : M α} {e : Err} (f : α → M β)
    (h : execK w p = (w', Except.error e)) : execK w (M.bind' p f) = (w', Except.error e) :=
  (execK_eq w _).trans (Prog.runState_mbind_err f ((execK_eq w p).symm.trans h))

theorem execK_onErr_err {α : Type} {w w' : KS} {p : M α} {e : Err} (cl : Prog Unit)
    (h : execK w p = (w', Except.error e)) :
    execK w (M.onErr p cl) = ((execK w' cl).1, Except.error e) :=
  (execK_eq w _).trans ((Prog.runState_onErr_err cl ((execK_eq w p).symm.trans h)).trans (by rw [execK_eq]))

theorem execK_ofExcept {α : Type} (w : KS) (x : Except Err α) : execK w (M.ofExcept x) = (w, x) := by
  cases x <;> rfl

/-! ## the steps of the loop on a `KS` -/

open Prog

theorem step_diag (w : KS) (c : Call) (h : Sys.diag c = true) : (KS.step w c).1 = w := by
  show w.effect c = w
  -- of the clauses of `effect` only the last, "any other call", covers a diagnostic read: the others are `mkdirat`
  fun_cases KS.effect w c with
  | case4 => rfl
  | _ => cases h

theorem run_openat_dir {w : KS} {d : Fd} (hd : 0 ≤ d) {n : Bytes} {c : Fd} (fl mode : Nat)
    (hc : w.child d n = some c) (hdir : w.isDir c = true) :
    runState KS.step (Sys.openat d n fl mode) w = (w, .ok c) :=
  runState_openat_fd hd (by simp only [KS.answer, hc, hdir, ↓reduceIte])

/-- the kernel's two answers to the `mkdirat` of a component in a directory, success and `EEXIST`, are one to the
tolerant call: the state is the one after `mkdirat`, which is the old one if the component exists -/
theorem run_mkdirTolerant {w : KS} {d : Fd} (hd0 : 0 ≤ d) (n : Bytes) (m : Nat) (hd : w.isDir d = true) :
    runState KS.step (Root.mkdirTolerant d n m) w = (w.effect (.mkdirat d n 0), .ok ()) := by
  unfold Root.mkdirTolerant
  rw [M.bind_def, Sys.mkdirat_eq hd0]
  cases h : w.child d n with
  | none =>
    rw [runState_mbind_ok _ (runState_try_ok (runState_unitCall_unit _ _ (KS.answer_mkdirat_none m hd h)))]
    rfl
  | some c =>
    rw [runState_mbind_ok _ (runState_try_err
      (runState_unitCall_err step_diag _ _ (KS.answer_mkdirat_some m hd h)) rfl)]
    rfl

theorem run_loop_step {w w' : KS} {cur c : Fd} (hc0 : 0 ≤ cur) {part : Bytes} {rest : List Bytes} (perm : Nat)
    (hs : Path.containsSlash part = false)
    (hmk : runState KS.step (Root.mkdirTolerant cur part perm) w = (w', .ok ()))
    (hch : w'.child cur part = some c) (hdc : w'.isDir c = true) :
    runState KS.step (Root.mkdirLoop perm cur (part :: rest)) w = runState KS.step (Root.mkdirLoop perm c rest) w' := by
  rw [Root.mkdirLoop]
  simp only [hs, Bool.false_eq_true, ↓reduceIte, M.bind_def]
  rw [runState_mbind_ok _ (runState_onErr_ok _ hmk),
    runState_mbind_ok _ (runState_onErr_ok _ (run_openat_dir hc0 _ 0 hch hdc))]
  rfl

/-! ## `chainAdd` -/

theorem chainAdd_nil (w : KS) (cur : Fd) : chainAdd w cur [] = w := rfl

theorem chainAdd_some {w : KS} {cur c : Fd} {p : Bytes} (rest : List Bytes) (h : w.child cur p = some c) :
    chainAdd w cur (p :: rest) = chainAdd w c rest := by
  simp only [chainAdd, h]

theorem chainAdd_none {w : KS} {cur : Fd} {p : Bytes} (rest : List Bytes) (h : w.child cur p = none) :
    chainAdd w cur (p :: rest) = chainAdd (w.effect (.mkdirat cur p 0)) w.next rest := by
  simp only [chainAdd, h]

/-- one round of `chainAdd`, whether or not the component exists: the state after the `mkdirat` (the old one if it
does), and the component there -/
theorem chainAdd_cons {w : KS} (ha : Alloc w) {cur : Fd} (hd : w.isDir cur = true) {p : Bytes} {rest : List Bytes}
    (hpre : Pre w cur (p :: rest)) :
    ∃ c, (w.effect (.mkdirat cur p 0)).child cur p = some c ∧ (w.effect (.mkdirat cur p 0)).isDir c = true ∧ 0 ≤ c ∧
      Pre (w.effect (.mkdirat cur p 0)) c rest ∧
      chainAdd w cur (p :: rest) = chainAdd (w.effect (.mkdirat cur p 0)) c rest := by
  cases hch : w.child cur p with
  | some c =>
    simp only [Pre, hch] at hpre
    rw [KS.effect_mkdirat_some 0 hch, chainAdd_some rest hch]
    exact ⟨c, hch, hpre.1, ha.pos _ _ _ hch, hpre.2, rfl⟩
  | none =>
    rw [chainAdd_none rest hch]
    exact ⟨w.next, KS.effect_mkdirat_child 0 hd hch, KS.effect_mkdirat_isDir 0 hd hch, ha.next_pos,
      pre_of_fresh ha (effect_guarantee w ha _).1 rest w.next (Int.le_refl _), rfl⟩

theorem chainAdd_adds (w : KS) (ha : Alloc w) (cur : Fd) (parts : List Bytes) (hd : w.isDir cur = true)
    (hpre : Pre w cur parts) : AddsDirs w (chainAdd w cur parts) ∧ Alloc (chainAdd w cur parts) := by
  induction parts generalizing w cur with
  | nil => exact ⟨AddsDirs.refl _, ha⟩
  | cons p rest ih =>
    obtain ⟨c, _, hdc, _, hprec, heq⟩ := chainAdd_cons ha hd hpre
    have hg := effect_guarantee w ha (.mkdirat cur p 0)
    obtain ⟨h1, h2⟩ := ih _ hg.2 c hdc hprec
    rw [heq]
    exact ⟨AddsDirs.trans hg.2 hg.1 h1, h2⟩

theorem chainAdd_existing (w : KS) (cur fd : Fd) (parts : List Bytes) (h : kwalk w cur parts = some fd) :
    chainAdd w cur parts = w := by
  revert h
  -- by the clauses of `kwalk`: no component; an entry that is a directory; one that is not; none
  fun_induction kwalk w cur parts with
  | case1 => exact fun _ => rfl
  | case2 cur p rest c hc hd ih => exact fun h => (chainAdd_some rest hc).trans (ih h)
  | case3 | case4 => exact nofun

/-- **exactly the missing directories**: alone on the tree, the creating loop succeeds, returns the directory at the
end of the chain, and the final state is the initial one with one `mkdirat` for every component that was missing, in
order, and nothing else -/
theorem mkdirLoop_exact (perm : Nat) (parts : List Bytes) (cur : Fd) (w : KS) (ha : Alloc w) (hc : 0 ≤ cur)
    (hd : w.isDir cur = true) (hns : ∀ p ∈ parts, Path.containsSlash p = false) (hpre : Pre w cur parts) :
    ∃ fd, execK w (Root.mkdirLoop perm cur parts) = (chainAdd w cur parts, .ok fd) ∧
      kwalk (chainAdd w cur parts) cur parts = some fd := by
  suffices h : ∃ fd, Prog.runState KS.step (Root.mkdirLoop perm cur parts) w = (chainAdd w cur parts, .ok fd) ∧
      kwalk (chainAdd w cur parts) cur parts = some fd from
    h.imp fun fd h => ⟨(execK_eq w _).trans h.1, h.2⟩
  induction parts generalizing cur w with
  | nil => exact ⟨cur, rfl, rfl⟩
  | cons part rest ih =>
    obtain ⟨c, hch, hdc, hc0, hprec, heq⟩ := chainAdd_cons ha hd hpre
    have hg := effect_guarantee w ha (.mkdirat cur part 0)
    obtain ⟨fd, hrun, hwalk⟩ := ih c _ hg.2 hc0 hdc (fun p hp => hns p (List.mem_cons_of_mem _ hp)) hprec
    obtain ⟨hR, _⟩ := chainAdd_adds _ hg.2 c rest hdc hprec
    rw [heq]
    refine ⟨fd, ?_, ?_⟩
    · rw [run_loop_step hc perm (hns part List.mem_cons_self) (run_mkdirTolerant hc part perm hd) hch hdc]
      exact hrun
    · -- the rest of the chain only added directories: the component made here is still there at the end
      simp only [kwalk, hR.keep _ _ _ hch, hR.kinds c (hg.2.bound _ _ _ hch), hdc, ↓reduceIte]
      exact hwalk

/-- on the one-directory kernel `ks0`, creating `a/b` below directory 4 allocates ids 5 and 6 -/
example : ∃ w', execK ks0 (Root.mkdirLoop 0o755 4 [b!"a", b!"b"]) = (w', .ok 6) ∧
    w'.child 4 b!"a" = some 5 ∧ w'.child 5 b!"b" = some 6 ∧ w'.next = 7 ∧
    w' = chainAdd ks0 4 [b!"a", b!"b"] := by
  obtain ⟨fd, hrun, hwalk⟩ := mkdirLoop_exact 0o755 [b!"a", b!"b"] 4 ks0 ks0_alloc (by decide) (by decide)
    (by decide) (by simp [Pre, ks0])
  have hfd : fd = 6 := by
    have : kwalk (chainAdd ks0 4 [b!"a", b!"b"]) 4 [b!"a", b!"b"] = some 6 := by decide
    rw [this] at hwalk
    exact (Option.some.inj hwalk).symm
  subst hfd
  exact ⟨_, hrun, by decide, by decide, by decide, rfl⟩

/-- running it again on the result changes nothing -/
example : chainAdd (chainAdd ks0 4 [b!"a", b!"b"]) 4 [b!"a", b!"b"] = chainAdd ks0 4 [b!"a", b!"b"] :=
  chainAdd_existing _ 4 6 _ (by decide)

end MkExact

#print axioms MkExact.mkdirLoop_exact
#print axioms MkExact.chainAdd_adds
#print axioms MkExact.chainAdd_existing
