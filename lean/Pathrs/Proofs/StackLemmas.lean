import Pathrs.SymlinkStack
import Pathrs.Proofs.PathLemmas

/-!
# The symlink stack tracks the pending expansion (pure list lemmas)

`pre` is the part of the walk's remaining components that came out of symlink bodies (the pending
expansion).  `StackInv s pre` says that the stack's unwalked parts, read from the top entry down,
are exactly the components of `pre` that are not `""`/`"."`, and that an entry without unwalked parts
is on top only while such no-op components are next.  Under this invariant the stack operations
never report a broken stack.
-/

namespace SStack

/-- the components `do_push` keeps / `mkdir_all` creates: not `""`, not `"."` -/
def nd (p : Bytes) : Bool := !p.isEmpty && p != Path.dot

/-- unwalked parts from the top entry down -/
def flat (s : SStack) : List Bytes := (s.reverse.map (·.unwalked)).flatten

/-- what `pop_top_symlink` reports -/
def botOf (s : SStack) : Option (Fd × Bytes) := s.head?.map fun e => (e.dir, e.remaining)

structure StackInv (s : SStack) (pre : List Bytes) : Prop where
  flat_eq : pre.filter nd = flat s
  top_empty : ∀ e, s.getLast? = some e → e.unwalked = [] → ∃ c rest, pre = c :: rest ∧ nd c = false

theorem rev_ind {α : Type} {P : List α → Prop} (hnil : P []) (hsnoc : ∀ l a, P l → P (l ++ [a])) (l : List α) : P l := by
  have : ∀ r : List α, P r.reverse := by
    intro r
    induction r with
    | nil => exact hnil
    | cons a t ih => rw [List.reverse_cons]; exact hsnoc _ _ ih
  have h := this l.reverse
  rwa [List.reverse_reverse] at h

theorem flat_nil : flat [] = [] := rfl

theorem flat_concat (s : SStack) (e : SEntry) : flat (s ++ [e]) = e.unwalked ++ flat s := by
  simp [flat]

theorem inv_nil : StackInv [] [] := ⟨rfl, fun e h => by simp at h⟩

theorem nd_dot : nd Path.dot = false := by decide
theorem nd_empty : nd [] = false := by decide

theorem nd_false {x : Bytes} (h : x = [] ∨ x = Path.dot) : nd x = false := by
  rcases h with rfl | rfl
  · exact nd_empty
  · exact nd_dot

theorem nd_true {x : Bytes} (h : ¬ (x = [] ∨ x = Path.dot)) : nd x = true := by
  simpa [nd, not_or] using h

theorem inv_empty_stack {pre : List Bytes} (h : StackInv [] pre) : pre.filter nd = [] := h.flat_eq

theorem trim_concat_nonempty (s : SStack) (e : SEntry) (h : e.unwalked ≠ []) : trim (s ++ [e]) = s ++ [e] := by
  unfold trim
  simp only [List.reverse_append, List.reverse_cons, List.reverse_nil, List.nil_append, List.singleton_append]
  rw [List.dropWhile_cons_of_neg (by simpa using h)]
  simp

theorem trim_concat_empty (s : SStack) (e : SEntry) (h : e.unwalked = []) : trim (s ++ [e]) = trim s := by
  unfold trim
  simp only [List.reverse_append, List.reverse_cons, List.reverse_nil, List.nil_append, List.singleton_append]
  rw [List.dropWhile_cons_of_pos (by simpa using h)]

theorem trim_nil : trim [] = [] := rfl

theorem flat_trim (s : SStack) : flat (trim s) = flat s := by
  induction s using rev_ind with
  | hnil => rfl
  | hsnoc s e ih =>
    by_cases h : e.unwalked = []
    · rw [trim_concat_empty s e h, ih, flat_concat, h, List.nil_append]
    · rw [trim_concat_nonempty s e h]

theorem trim_top (s : SStack) : ∀ e, (trim s).getLast? = some e → e.unwalked ≠ [] := by
  induction s using rev_ind with
  | hnil => intro e h; simp [trim_nil] at h
  | hsnoc s x ih =>
    by_cases h : x.unwalked = []
    · rw [trim_concat_empty s x h]; exact ih
    · rw [trim_concat_nonempty s x h]; intro e he; simp at he; rw [← he]; exact h

/-- `trim` drops entries from the top only -/
theorem trim_prefix (s : SStack) : trim s <+: s := by
  have := List.reverse_prefix.2 (List.dropWhile_suffix (l := s.reverse) fun e => e.unwalked.isEmpty)
  rwa [List.reverse_reverse] at this

theorem trim_bot (s : SStack) : trim s = [] ∨ botOf (trim s) = botOf s := by
  obtain ⟨t, ht⟩ := trim_prefix s
  cases h : trim s with
  | nil => exact Or.inl rfl
  | cons e r => right; rw [← ht, h]; rfl

theorem trim_inv {s : SStack} {pre : List Bytes} (hf : pre.filter nd = flat s) : StackInv (trim s) pre :=
  ⟨by rw [flat_trim]; exact hf, fun e he hu => absurd hu (trim_top s e he)⟩

/-- a no-op component (`""` walked as `"."`) -/
theorem popPart_dot (s : SStack) : popPart s Path.dot = .ok (trim s) := by
  simp [popPart, doPop]

theorem inv_top {s : SStack} {c : Bytes} {pre : List Bytes} (h : StackInv s (c :: pre)) (hc : nd c = true) :
    ∃ s0 e u, s = s0 ++ [e] ∧ e.unwalked = c :: u ∧ pre.filter nd = u ++ flat s0 := by
  have hf := h.flat_eq
  rw [List.filter_cons, if_pos hc] at hf
  rcases List.eq_nil_or_concat s with hs | ⟨s0, e, hs⟩
  · rw [hs] at hf; simp [flat_nil] at hf
  · rw [List.concat_eq_append] at hs
    rw [hs, flat_concat] at hf
    cases hu : e.unwalked with
    | nil =>
      obtain ⟨c', rest, hp, hn⟩ := h.top_empty e (by rw [hs]; simp) hu
      cases hp; rw [hc] at hn; cases hn
    | cons x u =>
      rw [hu] at hf
      simp only [List.cons_append, List.cons.injEq] at hf
      exact ⟨s0, e, u, hs, by rw [hf.1, hu], hf.2⟩

theorem doPop_top (s0 : SStack) (e : SEntry) (c : Bytes) (u : List Bytes) (hu : e.unwalked = c :: u)
    (hc : c ≠ Path.dot) : doPop (s0 ++ [e]) c = .ok (s0 ++ [{ e with unwalked := u }]) := by
  simp [doPop, hc, hu]

theorem nd_ne_dot {c : Bytes} (h : nd c = true) : c ≠ Path.dot := by
  intro hc; rw [hc] at h; exact absurd h (by decide)

/-- The head of the pending expansion was walked (`""` as `"."`) and is not a symlink: a no-op component leaves the
entries alone, a real one is popped off the top entry; then fully walked entries are dropped.  The bottom entry stays
unless the stack becomes empty. -/
theorem popPart_in {s : SStack} {c : Bytes} {pre : List Bytes} (h : StackInv s (c :: pre)) :
    ∃ s', popPart s (if c = [] then Path.dot else c) = .ok s' ∧ StackInv s' pre ∧
      (s' = [] ∨ botOf s' = botOf s) ∧ (s = [] → s' = []) := by
  by_cases hc : c = [] ∨ c = Path.dot
  · have hp : (if c = [] then Path.dot else c) = Path.dot := by rcases hc with h | h <;> simp [h]
    refine ⟨trim s, by rw [hp, popPart_dot], trim_inv ?_, trim_bot s, fun h0 => by rw [h0]; rfl⟩
    simpa [List.filter_cons, nd_false hc] using h.flat_eq
  · obtain ⟨s0, e, u, hs, hu, hf⟩ := inv_top h (nd_true hc)
    subst hs
    refine ⟨trim (s0 ++ [{ e with unwalked := u }]), ?_, trim_inv (by rw [flat_concat]; exact hf), ?_, fun h0 => by simp at h0⟩
    · simp [popPart, if_neg fun h0 => hc (Or.inl h0), doPop_top s0 e c u hu fun h0 => hc (Or.inr h0)]
    · rcases trim_bot (s0 ++ [{ e with unwalked := u }]) with h0 | h1
      · exact Or.inl h0
      · right; rw [h1]; cases s0 <;> simp [botOf]

/-- outside every expansion the stack is empty and stays empty -/
theorem popPart_empty (c : Bytes) : popPart [] c = .ok [] := by
  by_cases hc : c = Path.dot
  · rw [hc, popPart_dot]; rfl
  · simp [popPart, doPop, hc]

/-- pushing the entry of a link being followed: its body is prepended to the pending expansion -/
theorem doPush_inv {s : SStack} {pre : List Bytes} (hf : pre.filter nd = flat s) (dir : Fd) (remaining target : Bytes) :
    StackInv (doPush s dir remaining target) (Path.rawComponents target ++ pre) := by
  constructor
  · simp only [doPush, flat_concat, List.filter_append]
    rw [hf]; rfl
  · intro e' he' hu'
    simp only [doPush, List.getLast?_append, List.getLast?_singleton, Option.some_or, Option.some.injEq] at he'
    rw [← he'] at hu'
    simp only at hu'
    -- the new entry has nothing unwalked only if the body starts with a no-op component
    cases hr : Path.rawComponents target with
    | nil => exact absurd hr (KPath.splitSlash_ne_nil target)
    | cons x xs =>
      refine ⟨x, xs ++ pre, rfl, ?_⟩
      rw [hr] at hu'
      simp only [List.filter_cons] at hu'
      by_cases hx : (!x.isEmpty && x != Path.dot) = true
      · rw [if_pos hx] at hu'; cases hu'
      · simpa [nd] using hx

/-- a real component that is a symlink, inside an expansion -/
theorem swapLink_real {s : SStack} {c : Bytes} {pre : List Bytes} (h : StackInv s (c :: pre)) (hc : nd c = true)
    (dir : Fd) (remaining target : Bytes) :
    ∃ s', swapLink s c dir remaining target = .ok s' ∧ StackInv s' (Path.rawComponents target ++ pre) ∧
      s' ≠ [] ∧ botOf s' = botOf s := by
  obtain ⟨s0, e, u, hs, hu, hf⟩ := inv_top h hc
  subst hs
  refine ⟨doPush (s0 ++ [{ e with unwalked := u }]) dir remaining target, ?_,
    doPush_inv (by rw [flat_concat]; exact hf) dir remaining target, ?_, ?_⟩
  · simp [swapLink, doPop_top s0 e c u hu (nd_ne_dot hc)]
  · simp [doPush]
  · cases s0 <;> simp [doPush, botOf]

/-- a symlink outside every expansion starts one -/
theorem swapLink_empty (c : Bytes) (hc : nd c = true) (dir : Fd) (remaining target : Bytes) :
    ∃ s', swapLink [] c dir remaining target = .ok s' ∧ StackInv s' (Path.rawComponents target ++ []) ∧
      botOf s' = some (dir, remaining) := by
  refine ⟨doPush [] dir remaining target, ?_, doPush_inv rfl dir remaining target, ?_⟩
  · simp [swapLink, doPop, nd_ne_dot hc]
  · simp [doPush, botOf]

theorem inv_nil_pre {s : SStack} (h : StackInv s []) : s = [] := by
  rcases List.eq_nil_or_concat s with hs | ⟨s0, e, hs⟩
  · exact hs
  · rw [List.concat_eq_append] at hs
    have hf := h.flat_eq
    rw [hs, flat_concat] at hf
    simp only [List.filter_nil] at hf
    have hu : e.unwalked = [] := (List.append_eq_nil_iff.mp hf.symm).1
    obtain ⟨c, rest, hp, _⟩ := h.top_empty e (by rw [hs]; simp) hu
    cases hp

theorem inv_top_ne {s : SStack} {c : Bytes} {pre : List Bytes} (h : StackInv s (c :: pre)) (hc : nd c = true) : s ≠ [] := by
  obtain ⟨s0, e, u, hs, _, _⟩ := inv_top h hc
  rw [hs]; simp

/-! ## The directories held by the stack -/

theorem dirs_doPop {s s' : SStack} {part : Bytes} (h : s.doPop part = .ok s') : s'.dirs = s.dirs := by
  revert h
  -- `.` leaves the stack alone, three clauses fail, the last replaces the top entry by one with the same `dir`
  fun_cases doPop s part with
  | case1 => intro h; cases h; rfl
  | case5 _ e he exp rest hu hexp =>
    intro h
    cases h
    obtain ⟨ys, rfl⟩ := List.getLast?_eq_some_iff.mp he
    simp [dirs]
  | _ => intro h; cases h

theorem dirs_trim (s : SStack) : s.trim.dirs ⊆ s.dirs :=
  ((trim_prefix s).sublist.map _).subset

theorem dirs_popPart {s s' : SStack} {part : Bytes} (h : s.popPart part = .ok s') : s'.dirs ⊆ s.dirs := by
  unfold popPart at h
  split at h
  · cases h; exact fun _ h => h
  · cases h
  · cases h; exact fun x hx => dirs_doPop ‹_› ▸ dirs_trim _ hx

theorem dirs_swapLink {s s' : SStack} {part : Bytes} {dir : Fd} {r t : Bytes}
    (h : s.swapLink part dir r t = .ok s') : s'.dirs = s.dirs ++ [dir] := by
  unfold swapLink at h
  split at h
  · cases h; simp [doPush, dirs]
  · rename_i h'; cases h; rw [← dirs_doPop h']; simp [doPush, dirs]
  · cases h
end SStack
