import Pathrs.Proofs.SatSys
import Pathrs.Proofs.Safe

/-!
# Programs on a deterministic state machine

`Prog.runState step p s` threads a state through `p`, each call `c` answered by `(step s c).2` and moving the state
to `(step s c).1`.  The mutable models (`KS`, `RFS`, a `World` with a parameter kernel for the mutating calls) are
such machines; this file carries `runState` through the combinators of `M` and through the system-call wrappers,
once for all of them, and states the equations of `M` this needs.  `M α` is `Prog (Except Err α)`, but not reducibly:
a `rw` with an equation about `Prog` in a goal about `M` fails as not type-correct, so such equations are applied with
`.trans` and `congrArg`, or after generalising the program to a `Prog (Except Err α)`.
-/

open K

namespace Sys

/-- the calls made while an error value is built (`FrozenFd`) and by the descriptor bookkeeping: none of them
changes a tree -/
def diag : Call → Bool
  | .gettid | .geteuid | .fstatat .. | .readlinkAbs .. | .close .. | .dup .. => true
  | _ => false

theorem diagPass : Pass AnyAnswer Top (fun c => diag c = true) :=
  Pass.any ⟨rfl, rfl, fun _ _ => rfl, fun _ _ => rfl, fun _ => rfl, fun _ => rfl⟩

theorem freeze_diag (fd : Fd) : Prog.AllCalls' (fun c => diag c = true) (freeze fd) :=
  allCalls'_iff_sat.mpr (freeze_sat diagPass fd)

/-- the guard of the wrappers (`hotfix_rustix_fd`) passes a descriptor that is not negative: the wrappers are then
their one call -/
theorem hotfix_then {α : Type} {d : Fd} (h : 0 ≤ d) (p : M α) : (M.bind' (M.ofExcept (hotfix d)) fun _ => p) = p := by
  rw [hotfix_eq_ok.mpr (.inr h)]
  rfl

theorem mkdirat_eq {d : Fd} (h : 0 ≤ d) (n : Bytes) (m : Nat) :
    mkdirat d n m = unitCall (.mkdirat d n m) [d] "mkdirat" :=
  hotfix_then h _

theorem unlinkat_eq {d : Fd} (h : 0 ≤ d) (n : Bytes) (fl : Nat) :
    unlinkat d n fl = unitCall (.unlinkat d n fl) [d] "unlinkat" :=
  hotfix_then h _

theorem openat_eq {d : Fd} (h : 0 ≤ d) (n : Bytes) (fl m : Nat) :
    openat d n fl m = M.bind' (M.call (.openat d n (fl ||| O_NOFOLLOW ||| O_CLOEXEC ||| O_NOCTTY) m)) fun r =>
      match r with
      | .fd k => pure k
      | .err e => failWith [d] e
      | _ => throw (.badResp "openat") :=
  hotfix_then h _

end Sys

/-! ## equations of `M`: associativity; combinators that make no call of their own map the result -/

theorem M.bind'_assoc {α β γ : Type} (p : M α) (f : α → M β) (g : β → M γ) :
    M.bind' (M.bind' p f) g = M.bind' p fun a => M.bind' (f a) g :=
  (Prog.bind_assoc (α := Except Err α) p _ _).trans
    (congrArg (Prog.bind (α := Except Err α) p) (funext fun x => by cases x <;> rfl))

/-- what `try'` makes of a result: fatal errors pass, the others become values -/
def M.tryRes {α : Type} : Except Err α → Except Err (Except Err α)
  | .ok a => .ok (.ok a)
  | .error e => if e.isFatal then .error e else .ok (.error e)

theorem M.try'_eq {α : Type} (p : M α) : M.try' p = Prog.bind p fun x => .ret (M.tryRes x) := by
  unfold M.try'
  congr 1
  funext x
  cases x with
  | ok a => rfl
  | error e => exact (apply_ite Prog.ret (e.isFatal = true) _ _).symm

/-- a continuation of `try'` that makes no call maps the result: `g` says how, on values, on caught errors, and
(like `try'`) not at all on fatal ones -/
theorem M.try'_bind_eq {α β : Type} (p : M α) {f : Except Err α → M β} {g : Except Err α → Except Err β}
    (hok : ∀ a, f (.ok a) = Prog.ret (g (.ok a)))
    (herr : ∀ e, e.isFatal = false → f (.error e) = Prog.ret (g (.error e)))
    (hfatal : ∀ e, e.isFatal = true → g (.error e) = .error e) :
    M.bind' (M.try' p) f = Prog.bind p fun x => .ret (g x) := by
  rw [M.try'_eq]
  refine (Prog.bind_assoc (α := Except Err α) p _ _).trans
    (congrArg (Prog.bind (α := Except Err α) p) (funext fun x => ?_))
  cases x with
  | ok a => exact hok a
  | error e =>
    cases hf : e.isFatal with
    | false => exact (congrArg (fun r => M.bind' (Prog.ret r) f) (if_neg (by simp [hf]))).trans (herr e hf)
    | true => exact (congrArg (fun r => M.bind' (Prog.ret r) f) (if_pos hf)).trans (congrArg Prog.ret (hfatal e hf).symm)

def M.isOkRes {α : Type} : Except Err α → Except Err Bool
  | .ok _ => .ok true
  | .error e => if e.isFatal then .error e else .ok false

theorem M.isOk_eq {α : Type} (p : M α) : M.isOk p = Prog.bind p fun x => .ret (M.isOkRes x) :=
  M.try'_bind_eq p (fun _ => rfl) (fun e hf => (congrArg Prog.ret (if_neg (by simp [hf]))).symm)
    fun e hf => if_pos hf

def RemoveAll.ignoreRes : Except Err Unit → Except Err Unit
  | .error (.os e) => if e = ENOENT then .ok () else .error (.os e)
  | x => x

theorem RemoveAll.ignoreEnoent_eq (p : M Unit) :
    RemoveAll.ignoreEnoent p = Prog.bind p fun x => .ret (RemoveAll.ignoreRes x) :=
  M.try'_bind_eq p (fun _ => rfl)
    (fun e _ => by
      cases e with
      | os n => exact (apply_ite Prog.ret (n = ENOENT) _ _).symm
      | _ => rfl)
    fun e hf => by cases e <;> first | rfl | cases hf

def RemoveAll.openSubRes : Except Err Fd → Except Err (Option Fd)
  | .ok fd => .ok (some fd)
  | .error (.os e) => if e = ENOENT then .ok none else .error (.os e)
  | .error e => .error e

theorem RemoveAll.openSubdir_eq (d : Fd) (n : Bytes) :
    RemoveAll.openSubdir d n = Prog.bind (Sys.openat d n O_DIRECTORY 0) fun x => .ret (RemoveAll.openSubRes x) :=
  M.try'_bind_eq _ (fun _ => rfl)
    (fun e _ => by
      cases e with
      | os k => exact (apply_ite Prog.ret (k = ENOENT) _ _).symm
      | _ => rfl)
    fun e hf => by cases e <;> first | rfl | cases hf

def Root.tolRes : Except Err Unit → Except Err Unit
  | .ok () => .ok ()
  | .error e => if e.isFatal = false ∧ e = .os EEXIST then .ok () else .error e

theorem Root.mkdirTolerant_eq (cur : Fd) (part : Bytes) (perm : Nat) :
    Root.mkdirTolerant cur part perm = Prog.bind (Sys.mkdirat cur part perm) fun x => .ret (Root.tolRes x) :=
  M.try'_bind_eq _ (fun _ => rfl)
    (fun e hf => by
      by_cases he : e = .os EEXIST
      · exact (if_neg (α := M Unit) fun h => h he).trans (congrArg Prog.ret (if_pos ⟨hf, he⟩).symm)
      · exact (if_pos (α := M Unit) he).trans (congrArg Prog.ret (if_neg fun h => he h.2).symm))
    fun e hf => if_neg fun h => by rw [hf] at h; cases h.1

namespace Prog

variable {σ α β : Type} {step : σ → Call → σ × Resp} {s s' : σ}

theorem runState_bind (p : Prog α) (f : α → Prog β) (s : σ) :
    runState step (bind p f) s = runState step (f (runState step p s).2) (runState step p s).1 := by
  induction p generalizing s with
  | ret a => rfl
  | call c k ih => exact ih _ _

theorem runState_bind_eq {p : Prog α} {a : α} (f : α → Prog β) (h : runState step p s = (s', a)) :
    runState step (bind p f) s = runState step (f a) s' := by
  rw [runState_bind, h]

theorem runState_fst {D : Call → Prop} (hD : ∀ s c, D c → (step s c).1 = s) {p : Prog α} (hp : AllCalls' D p)
    (s : σ) : (runState step p s).1 = s := by
  induction p generalizing s with
  | ret a => rfl
  | call c k ih => exact (ih _ (hp.2 _) _).trans (hD s c hp.1)

/-! ## the combinators of `M` -/

theorem runState_mbind_ok {p : M α} {a : α} (f : α → M β) (h : runState step p s = (s', .ok a)) :
    runState step (M.bind' p f) s = runState step (f a) s' :=
  runState_bind_eq _ h

theorem runState_mbind_err {p : M α} {e : Err} (f : α → M β) (h : runState step p s = (s', .error e)) :
    runState step (M.bind' p f) s = (s', .error e) :=
  runState_bind_eq _ h

theorem runState_try_ok {p : M α} {a : α} (h : runState step p s = (s', .ok a)) :
    runState step (M.try' p) s = (s', .ok (.ok a)) :=
  runState_bind_eq _ h

theorem runState_try_err {p : M α} {e : Err} (h : runState step p s = (s', .error e)) (hf : e.isFatal = false) :
    runState step (M.try' p) s = (s', .ok (.error e)) := by
  refine (runState_bind_eq _ h).trans ?_
  simp only [hf]
  rfl

theorem runState_isOk_ok {p : M α} {a : α} (h : runState step p s = (s', .ok a)) :
    runState step (M.isOk p) s = (s', .ok true) :=
  runState_mbind_ok _ (runState_try_ok h)

/-- `let r ← try' q; fin r` where `fin` only cleans up and re-raises: the effect and result of `q` -/
theorem runState_try_then (q : M α) (fin : Except Err α → M α) (hfin : ∀ s r, runState step (fin r) s = (s, r)) :
    runState step (M.bind' (M.try' q) fin) s = runState step q s := by
  have key : ∀ q : Prog (Except Err α), runState step (M.bind' (M.try' q) fin) s = runState step q s := by
    intro q
    unfold M.bind' M.try'
    rw [runState_bind, runState_bind]
    generalize runState step q s = x
    obtain ⟨s1, r1⟩ := x
    cases r1 with
    | ok a => exact hfin s1 (.ok a)
    | error e =>
      dsimp only
      by_cases hf : e.isFatal = true
      · simp only [hf, ↓reduceIte]; rfl
      · simp only [hf, Bool.false_eq_true, ↓reduceIte]; exact hfin s1 (.error e)
  exact key q

theorem runState_onErr_ok {p : M α} {a : α} (cl : Prog Unit) (h : runState step p s = (s', .ok a)) :
    runState step (M.onErr p cl) s = (s', .ok a) :=
  runState_bind_eq _ h

theorem runState_onErr_err {p : M α} {e : Err} (cl : Prog Unit) (h : runState step p s = (s', .error e)) :
    runState step (M.onErr p cl) s = ((runState step cl s').1, .error e) :=
  (runState_bind_eq _ h).trans (runState_bind _ _ _)

theorem runState_mcall (c : Call) (s : σ) : runState step (M.call c) s = ((step s c).1, .ok (step s c).2) := rfl

/-! ## the wrappers, on a machine whose state the diagnostic reads leave alone -/

theorem runState_failWith (hD : ∀ s c, Sys.diag c = true → (step s c).1 = s) (fds : List Fd) (e : Nat) (s : σ) :
    runState step (Sys.failWith fds e : M α) s = (s, .error (.os e)) := by
  unfold Sys.failWith
  induction fds with
  | nil => rfl
  | cons fd rest ih =>
    unfold Sys.failWith.go
    rw [runState_bind, runState_fst hD (Sys.freeze_diag fd)]
    exact ih

theorem runState_unitCall_unit {c : Call} (fds : List Fd) (site : String) (h : (step s c).2 = .unit) :
    runState step (Sys.unitCall c fds site) s = ((step s c).1, .ok ()) := by
  unfold Sys.unitCall
  rw [M.bind_def, runState_mbind_ok _ (runState_mcall c s), h]
  rfl

theorem runState_unitCall_err (hD : ∀ s c, Sys.diag c = true → (step s c).1 = s) {c : Call} (fds : List Fd) (site : String) {e : Nat} (h : (step s c).2 = .err e) :
    runState step (Sys.unitCall c fds site) s = ((step s c).1, .error (.os e)) := by
  unfold Sys.unitCall
  rw [M.bind_def, runState_mbind_ok _ (runState_mcall c s), h]
  exact runState_failWith hD fds e _

theorem runState_openat_fd {d : Fd} (hd : 0 ≤ d) {n : Bytes} {fl mode : Nat} {c : Fd}
    (h : (step s (.openat d n (fl ||| O_NOFOLLOW ||| O_CLOEXEC ||| O_NOCTTY) mode)).2 = .fd c) :
    runState step (Sys.openat d n fl mode) s =
      ((step s (.openat d n (fl ||| O_NOFOLLOW ||| O_CLOEXEC ||| O_NOCTTY) mode)).1, .ok c) := by
  rw [Sys.openat_eq hd, runState_mbind_ok _ (runState_mcall _ s), h]
  rfl

end Prog
