import Pathrs.Proofs.SatSys

/-!
# The safety logic `Safe`, and `Prog.AllCalls'`, as instances of `Sat`

`Safe D p Q`: under every environment whose answers are *sane* (a returned
descriptor is never negative — the one kernel fact this logic assumes), every
call `p` makes satisfies `D` and every result satisfies `Q`.
-/

/-- the kernel never returns a negative descriptor -/
def Resp.sane : Resp → Prop
  | .fd n => 0 ≤ n
  | _ => True

def Safe (D : Call → Prop) : Prog α → (α → Prop) → Prop
  | .ret a, Q => Q a
  | .call c k, Q => D c ∧ ∀ r, r.sane → Safe D (k r) Q

/-- the rely of `Safe` -/
abbrev Sane : Call → Resp → Prop := fun _ r => r.sane

theorem safe_iff_sat {α : Type} {D : Call → Prop} {p : Prog α} {Q : α → Prop} : Safe D p Q ↔ Sat Sane D p Q := by
  induction p with
  | ret a => exact (Sat.ret_iff (Q := Q)).symm
  | call c k ih =>
    refine Iff.trans ?_ (Sat.call_iff (A := Sane) (k := k)).symm
    exact and_congr_right fun _ => forall_congr' fun r => imp_congr_right fun _ => ih r

theorem allCalls'_iff_sat {α : Type} {D : Call → Prop} {p : Prog α} : Prog.AllCalls' D p ↔ Sat AnyAnswer D p Top := by
  induction p with
  | ret a => exact (Sat.ret_iff (Q := Top)).symm
  | call c k ih =>
    refine Iff.trans ?_ (Sat.call_iff (A := AnyAnswer) (k := k)).symm
    exact and_congr_right fun _ => forall_congr' fun r => (ih r).trans ⟨fun h _ => h, fun h => h trivial⟩

theorem Sat.allCalls' {α : Type} {D D' : Call → Prop} {p : Prog α} {Q : α → Prop} (h : Sat AnyAnswer D p Q)
    (hD : ∀ c, D c → D' c) : Prog.AllCalls' D' p :=
  allCalls'_iff_sat.mpr (h.imp (fun _ _ h => h) hD fun _ _ => trivial)

theorem Prog.AllCalls'.satM {α : Type} {D : Call → Prop} {p : M α} (h : Prog.AllCalls' D p) : SatM AnyAnswer D p Top :=
  Sat.mono (allCalls'_iff_sat.mp h) fun r _ => Ok.top r

namespace Prog.AllCalls'

variable {α β : Type} {D : Call → Prop}

theorem mbind {p : M α} {f : α → M β} (hp : Prog.AllCalls' D p) (hf : ∀ a, Prog.AllCalls' D (f a)) :
    Prog.AllCalls' D (M.bind' p f) :=
  Sat.allCalls' (hp.satM.bind fun a _ => (hf a).satM) fun _ h => h

theorem lift {p : Prog α} (hp : Prog.AllCalls' D p) : Prog.AllCalls' D (M.lift p) :=
  Sat.allCalls' (SatM.lift (allCalls'_iff_sat.mp hp)) fun _ h => h

theorem isOk {p : M α} (hp : Prog.AllCalls' D p) : Prog.AllCalls' D (M.isOk p) :=
  Sat.allCalls' hp.satM.isOk fun _ h => h

end Prog.AllCalls'

/-- Postcondition "a returned descriptor is non-negative". -/
def FdOk : Except Err Fd → Prop := fun r => ∀ fd, r = .ok fd → 0 ≤ fd

/-- a procfs handle whose descriptor is a real descriptor -/
def ProcHOk : Except Err ProcH → Prop := fun r => ∀ h, r = .ok h → 0 ≤ h.fd

/-- Postcondition for results that carry no descriptor. -/
def Any {α : Type} : α → Prop := fun _ => True

theorem Ok.elim {α : Type} {Q : α → Prop} {r : Except Err α} (h : Ok Q r) (a : α) (e : r = .ok a) : Q a := by
  subst e; exact h

/-- a statement in `Sat` form under sane answers, as a `Safe` statement with a postcondition of the shapes used
in the property files (`FdOk`, `ProcHOk`, `fun _ => True`) -/
theorem SatM.safe {α : Type} {D : Call → Prop} {p : M α} {Q : α → Prop} {Q' : Except Err α → Prop}
    (h : SatM Sane D p Q) (hQ : ∀ r, Ok Q r → Q' r) : Safe D p Q' :=
  safe_iff_sat.mpr (Sat.mono h hQ)

namespace Safe

variable {D : Call → Prop}

theorem ret {a : α} {Q : α → Prop} (h : Q a) : Safe D (.ret a) Q := h

theorem mono {p : Prog α} {Q Q' : α → Prop} (h : Safe D p Q) (hq : ∀ a, Q a → Q' a) :
    Safe D p Q' :=
  safe_iff_sat.mpr ((safe_iff_sat.mp h).mono hq)

theorem monoD {D' : Call → Prop} {p : Prog α} {Q : α → Prop} (h : ∀ c, D c → D' c) (hp : Safe D p Q) :
    Safe D' p Q :=
  safe_iff_sat.mpr ((safe_iff_sat.mp hp).imp (fun _ _ h => h) h fun _ h => h)

theorem bind {p : Prog α} {f : α → Prog β} {Q' : α → Prop} {Q : β → Prop}
    (hp : Safe D p Q') (hf : ∀ a, Q' a → Safe D (f a) Q) : Safe D (Prog.bind p f) Q :=
  safe_iff_sat.mpr ((safe_iff_sat.mp hp).bind fun a ha => safe_iff_sat.mp (hf a ha))

theorem weaken {p : Prog α} {Q : α → Prop} (h : Safe D p Q) : Safe D p (fun _ => True) :=
  mono h (fun _ _ => trivial)

theorem call {c : Call} {k : Resp → Prog α} {Q : α → Prop} (hc : D c)
    (hk : ∀ r, r.sane → Safe D (k r) Q) : Safe D (.call c k) Q := ⟨hc, hk⟩

/-- connection to runs: every call of the trace under a sane oracle satisfies `D` -/
theorem trace_calls {p : Prog α} {Q : α → Prop} (hp : Safe D p Q) (o : Oracle)
    (hsane : ∀ h c, (o h c).sane) (h : Hist) (hh : ∀ cr ∈ h, D cr.1) :
    (∀ cr ∈ (p.trace o h).1, D cr.1) ∧ Q (p.trace o h).2 := by
  induction p generalizing h with
  | ret a => exact ⟨hh, hp⟩
  | call c k ih =>
    apply ih _ (hp.2 _ (hsane h c))
    intro cr hcr
    rcases List.mem_append.mp hcr with h1 | h1
    · exact hh cr h1
    · simp at h1; subst h1; exact hp.1

theorem mbind {p : M α} {f : α → M β} {Q' : Except Err α → Prop} {Q : Except Err β → Prop}
    (hp : Safe D p Q') (hf : ∀ a, Q' (.ok a) → Safe D (f a) Q)
    (he : ∀ e, Q' (.error e) → Q (.error e)) : Safe D (M.bind' p f) Q :=
  safe_iff_sat.mpr ((safe_iff_sat.mp hp).mbind (fun a ha => safe_iff_sat.mp (hf a ha)) he)

theorem mlift {p : Prog α} {Q : Except Err α → Prop} (hp : Safe D p (fun a => Q (.ok a))) :
    Safe D (M.lift p) Q :=
  safe_iff_sat.mpr (safe_iff_sat.mp hp).lift

theorem mcall {c : Call} {Q : Except Err Resp → Prop} (hc : D c)
    (hq : ∀ r, r.sane → Q (.ok r)) : Safe D (M.call c) Q :=
  safe_iff_sat.mpr (Sat.mcall hc hq)

theorem ofExcept {x : Except Err α} {Q : Except Err α → Prop} (h : Q x) :
    Safe D (M.ofExcept x) Q :=
  safe_iff_sat.mpr (Sat.ofExcept h)

theorem onErr {p : M α} {c : Prog Unit} {Q : Except Err α → Prop}
    (hp : Safe D p Q) (hc : Safe D c (fun _ => True)) : Safe D (M.onErr p c) Q :=
  safe_iff_sat.mpr ((safe_iff_sat.mp hp).onErr (safe_iff_sat.mp hc))

theorem try' {p : M α} {Q : Except Err α → Prop} {Q' : Except Err (Except Err α) → Prop}
    (hp : Safe D p Q) (hok : ∀ a, Q (.ok a) → Q' (.ok (.ok a)))
    (herr : ∀ e, Q (.error e) → Q' (.ok (.error e)) ∧ Q' (.error e)) :
    Safe D (M.try' p) Q' :=
  safe_iff_sat.mpr ((safe_iff_sat.mp hp).try' hok (fun e h _ => (herr e h).2) fun e h _ => (herr e h).1)

end Safe

/-! ## The syscall wrappers in `Safe` form

Instances of the lemmas of `SatSys.lean` at sane answers, for any predicate `D` that accepts the diagnostic calls
made while error values are built (`DiagOk`). -/

open K

namespace G

variable {D : Call → Prop}

/-- sane answers, so every descriptor handed out is non-negative -/
theorem pass (hD : DiagOk D) : Pass Sane (0 ≤ ·) D := ⟨fun _ _ h => h, hD⟩

theorem geteuid_safe (hD : DiagOk D) : Safe D Sys.geteuid (fun _ => True) :=
  safe_iff_sat.mpr (Sys.geteuid_sat (pass hD))

theorem failWith_safe (hD : DiagOk D) {α : Type} (fds : List Fd) (e : Nat) (Q : Except Err α → Prop)
    (hq : ∀ e', Q (.error e')) : Safe D (Sys.failWith (α := α) fds e) Q :=
  (Sys.failWith_sat (pass hD) fds e (Q := fun _ => False)).safe fun r h => match r, h with
    | .error e', _ => hq e'

theorem openat2_safe (hD : DiagOk D) (dir : Fd) (path : Bytes) (flags resolve : Nat)
    (hc : (dir = AT_FDCWD ∨ 0 ≤ dir) →
      D (.openat2 dir (Path.toCString path) (flags ||| O_CLOEXEC) 0 resolve OPEN_HOW_SIZE)) :
    Safe D (Sys.openat2 dir path flags resolve) FdOk :=
  (Sys.openat2_sat (pass hD) hc).safe fun _ => Ok.elim

theorem readlinkat_safe (hD : DiagOk D) (dir : Fd) (name : Bytes)
    (hc : (dir = AT_FDCWD ∨ 0 ≤ dir) → D (.readlinkat dir name READLINK_BUF)) :
    Safe D (Sys.readlinkat dir name) (fun _ => True) :=
  (Sys.readlinkat_sat (pass hD) hc).safe fun _ _ => trivial

theorem fstatat_safe (hD : DiagOk D) (dir : Fd) (name : Bytes)
    (hc : (dir = AT_FDCWD ∨ 0 ≤ dir) → D (.fstatat dir name STAT_FLAGS)) :
    Safe D (Sys.fstatat dir name) (fun _ => True) :=
  (Sys.fstatat_sat (pass hD) hc).safe fun _ _ => trivial

theorem statx_safe (hD : DiagOk D) (dir : Fd) (name : Bytes) (mask : Nat)
    (hc : (dir = AT_FDCWD ∨ 0 ≤ dir) → D (.statx dir name STAT_FLAGS mask)) :
    Safe D (Sys.statx dir name mask) (fun _ => True) :=
  (Sys.statx_sat (pass hD) hc).safe fun _ _ => trivial

theorem fstatfs_safe (hD : DiagOk D) (fd : Fd) (hc : (fd = AT_FDCWD ∨ 0 ≤ fd) → D (.fstatfs fd)) :
    Safe D (Sys.fstatfs fd) (fun _ => True) :=
  (Sys.fstatfs_sat (pass hD) hc).safe fun _ _ => trivial

theorem closeAll_safe (hD : DiagOk D) (fds : List Fd) : Safe D (Sys.closeAll fds) (fun _ => True) :=
  safe_iff_sat.mpr (Sys.closeAll_sat (pass hD) fds)

theorem dup_safe (hD : DiagOk D) (fd : Fd) : Safe D (Sys.dup fd) FdOk :=
  (Sys.dup_sat (pass hD) fd).safe fun _ => Ok.elim

end G

/-! ## The discipline predicate -/

/-- `followOk` only adds a disjunct, and only for `openat` -/
theorem Disc.weaken {c : Call} (h : Disc false c) : Disc true c := by
  cases c with
  | openat => exact h.imp_right (Or.imp_left fun h => nomatch h.1)
  | _ => exact h

theorem discDiagOk (b : Bool) : DiagOk (Disc b) where
  gettid := trivial
  geteuid := trivial
  probe := fun _ hp => ⟨rfl, Or.inr ⟨rfl, hp⟩⟩
  readlinkAbs := fun _ hp => hp
  close := fun _ => trivial
  dup := fun _ => rfl

/-- the setting of C05 -/
theorem discPass (b : Bool) : Pass Sane (0 ≤ ·) (Disc b) := G.pass (discDiagOk b)

variable {b : Bool}

theorem release_safe (fd : Fd) (held : List Fd) : Safe (Disc b) (Sys.release fd held) (fun _ => True) :=
  safe_iff_sat.mpr (Sys.release_sat (discPass b) fd held)

theorem throw_fd (e : Err) : Safe (Disc b) (throw e : M Fd) FdOk := fun _ h => nomatch h

/-! From here on `Safe` is opened by `Safe.ret`, `Safe.call` and `safe_iff_sat` only, for the reason given at the end of
`Sat.lean`: it is the goal of every `C05_*`, `C11_*_cloexec` and `C03_*` theorem, over whole `Root` operations. -/
attribute [irreducible] Safe
