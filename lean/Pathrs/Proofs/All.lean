import Pathrs.Proofs.Props.C01
import Pathrs.Proofs.Props.C02
import Pathrs.Proofs.Props.C02_Attack
import Pathrs.Proofs.Props.C02_Kernel
import Pathrs.Proofs.Props.C04
import Pathrs.Proofs.Props.C03
import Pathrs.Proofs.Props.C03_Attack
import Pathrs.Proofs.Props.C05
import Pathrs.Proofs.Props.C06
import Pathrs.Proofs.Props.C07
import Pathrs.Proofs.Props.C07_Table
import Pathrs.Proofs.Props.C08
import Pathrs.Proofs.Props.C09
import Pathrs.Proofs.Props.C10
import Pathrs.Proofs.Props.C11
import Pathrs.Proofs.Props.C12
import Pathrs.Proofs.Props.C13
import Pathrs.Proofs.Props.C13_Dots
import Pathrs.Proofs.Props.C14
import Pathrs.Proofs.Props.C15
import Pathrs.Proofs.Props.C16
import Pathrs.Proofs.Props.C17
import Pathrs.Proofs.Props.C18
