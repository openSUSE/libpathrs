import Pathrs.Proofs.Props.C02
import Pathrs.Proofs.KRun

/-!
# The emulated lookup against an attacker who rearranges the tree between any two system calls

`Prog.run w` answers every call from one immutable world.  Here every system call is answered by the world *of its
moment*: `ws i` is the state of the machine when the `i`-th call is made, and nothing relates the trees of different
moments — the attacker may rename, exchange, replace, remove, move out of and into the root whatever it likes, as often
as it likes, between any two calls (`Attacker` only says that the root directory itself stays where it is and is a tree object, and that
libpathrs' own `thread-self` directory is not a symlink; the numbering of the procfs objects is fixed by `World.answer`).

`emulated_resolve_sub` (read off `runSeq` itself: `C02_under_attack`, `Props/C02_Attack.lean`): a descriptor the
emulated lookup returns refers to an object that the kernel's `d_path` placed below the root at some moment of the call;
an object that was outside the tree at every moment of the call is never returned.

The lookup is never evaluated: `runSeq` is a `Runs` whose `k`-th answer is the one of moment `i0 + k` (`runSeq_runs`),
`C02_emulated_checked` inverts that run down to the three `as_unsafe_path` reads of the last `check_current`, and what
such a read can return under the answers of the worlds of the call — `DPathSound`: the link prints where the open file
is *at that moment* — is found by one forward pass over libpathrs' own procfs lookups (`post_asUnsafePath`).
-/

open K World KRun

namespace Attack

/-- every system call is answered by the world of its moment; returns the result and the index of the next moment -/
def runSeq {α : Type} (ws : Nat → World) : Nat → Prog α → α × Nat
  | i, .ret a => (a, i)
  | i, .call c k => runSeq ws (i + 1) (k ((ws i).answer c))

theorem runSeq_bind {α β : Type} (ws : Nat → World) (p : Prog α) (f : α → Prog β) (i : Nat) :
    runSeq ws i (Prog.bind p f) = runSeq ws (runSeq ws i p).2 (f (runSeq ws i p).1) := by
  induction p generalizing i with
  | ret a => rfl
  | call c k ih => exact ih _ _

/-- the `k`-th entry of the history was answered by the world of moment `i0 + k` -/
def AnsSeq (ws : Nat → World) (i0 : Nat) (H : Hist) : Prop :=
  ∀ k (hk : k < H.length), (H[k]).2 = (ws (i0 + k)).answer (H[k]).1

theorem runSeq_runs {α : Type} (ws : Nat → World) (p : Prog α) (i : Nat) (h : Hist) :
    ∃ l : Hist, Runs p h (h ++ l) (runSeq ws i p).1 ∧ (runSeq ws i p).2 = i + l.length ∧ AnsSeq ws i l := by
  induction p generalizing i h with
  | ret a =>
    refine ⟨[], ?_, rfl, fun k hk => by cases hk⟩
    rw [List.append_nil]; exact Runs.ret a h
  | call c k ih =>
    obtain ⟨l, hr, hn, ha⟩ := ih ((ws i).answer c) (i + 1) (h ++ [(c, (ws i).answer c)])
    refine ⟨(c, (ws i).answer c) :: l, ?_, ?_, ?_⟩
    · exact Runs.call c k _ h _ _ (List.append_assoc h [_] l ▸ hr)
    · show (runSeq ws (i + 1) (k ((ws i).answer c))).2 = _
      rw [hn, List.length_cons, Nat.add_assoc, Nat.add_comm 1]
    · intro j hj
      cases j with
      | zero => rfl
      | succ j => exact Nat.add_right_comm i 1 j ▸ ha j (Nat.lt_of_succ_lt_succ hj)

theorem runSeq_ok {α : Type} {ws : Nat → World} {i : Nat} {p : Prog α} {r : α} (h : (runSeq ws i p).1 = r) :
    ∃ H, Runs p [] H r ∧ (runSeq ws i p).2 = i + H.length ∧ AnsSeq ws i H := by
  obtain ⟨H, hruns, hlen, hans⟩ := runSeq_runs ws p i []
  exact ⟨H, by simpa [h] using hruns, hlen, hans⟩

theorem ans_at {ws : Nat → World} {i0 : Nat} {H : Hist} (hans : AnsSeq ws i0 H) {pre hX : Hist} {c : Call} {r : Resp}
    (he : hX = pre ++ [(c, r)]) (hp : hX <+: H) :
    r = (ws (i0 + pre.length)).answer c ∧ pre.length < H.length := by
  obtain ⟨t, rfl⟩ := hp
  subst he
  have hlen : pre.length < (pre ++ [(c, r)] ++ t).length := by simp
  have h1 := hans pre.length hlen
  have h2 : (pre ++ [(c, r)] ++ t)[pre.length] = (c, r) :=
    List.getElem_of_append (l₂ := t) (by simp) rfl
  simp only [h2] at h1
  exact ⟨h1, hlen⟩

theorem answer_openat_dot (w : World) (d : Fd) (hd : d ≠ fdDir) (fl md : Nat) (fd : Fd)
    (h : Resp.fd fd = w.answer (.openat d Path.dot fl md)) : fd = d := by
  simp only [World.answer, hd, ↓reduceIte, World.lookup] at h
  by_cases hk : w.kind d = .dir
  · simp only [hk, ne_eq, not_true_eq_false, ↓reduceIte] at h
    cases h; rfl
  · simp only [hk, ne_eq, not_false_eq_true, ↓reduceIte] at h
    cases h

theorem components_nul : Path.components [0] = [Path.Comp.normal [0]] := by decide

theorem render_abs (w : World) (p : List Bytes) : Path.isAbsolute (w.render p) = true := rfl

/-- What is assumed about the sequence of worlds.  Nothing relates the trees of different moments, and none of them
has to be well-formed (`World.WF`): directory entries may lead anywhere (also to odd numbers and to procfs objects),
parents, kinds and link bodies are arbitrary and change from call to call.

`rc` (the absolute path of the root) and `m` (the mount id of libpathrs' procfs) occur in no field: a successful lookup
is analysed through the answers it received, and these determine the outcome whatever `rootComps`, `procMnt` and `root`
of the worlds are (if they do not fit, the lookup just fails).  Nor is anything asked of the printed paths: a printed
path of the root is absolute whatever its components are and the bytes `[0]` printed for an object outside the root are
not, so Rust's `Path ==` tells them apart at the first component; a path that does not fit the buffer makes the lookup
fail with `ENAMETOOLONG`; which object a read of `thread-self/fd/<f>` is about is fixed by the descriptor numbering of
`World.answer`, not by `dpath`; and an even object `≥ 4` returned by the procfs lookup fails
`fstatfs = PROC_SUPER_MAGIC` whatever its mount id. -/
structure Attacker (ws : Nat → World) (root : Fd) (rc : List Bytes) (m : Nat) : Prop where
  /-- the root is a tree object (an even number `≥ 4`): its path is read through the magic-link `root + 1` -/
  root_tree : isTree root
  /-- the root directory itself is not moved: the attacker works inside the tree -/
  root_path : ∀ i, (ws i).dpath root = some []
  /-- libpathrs' `thread-self` directory (object 2) is never a symlink.  It cannot be dropped, because the worlds need
  not be well-formed: let every `ws i` be the world with `root = 4`, `kind 4 = dir`,
  `child 4 "a" = some 1`, `dpath 4 = some []`, `dpath _ = none` otherwise, `rootComps = []`, `kind 2 = lnk`,
  `body 2 = "/a"`.  The lookup of `a` walks to object 1 (odd, never below the root: `dpath 1 = none` at every moment);
  `check_current` looks up `thread-self/fd/1`, which `World.answer` resolves to object `magic 1 = 2` — the thread-self
  directory, which passes the `statx`/`fstatfs` checks of the procfs lookup — and `readlinkat(2, "")` answers `body 2 =
  "/a"`, exactly the expected path: the lookup returns 1.  (For every other odd `f` the object `f + 1` is an even number
  `≥ 4`, which fails `fstatfs = PROC_SUPER_MAGIC`.)  This world is `badWorld` at the end of the file, where the run is
  evaluated. -/
  threadSelf_kind : ∀ i, (ws i).kind threadSelf ≠ .lnk

/-- the environment of the library in these worlds (it depends on the procfs mount id only) -/
def aenv (m : Nat) : Env :=
  { proc := { fd := procRoot, mntId := some m, isSubset := false, emulated := false },
    openat2 := true, protectedSymlinks := 0 }

/-! ## Results under the answers of worlds

Forward instead of by inversion: `Post S p Q` says that `Q` holds of the result of `p` whenever every call is answered
by one of the worlds `S` (another one each time).  libpathrs' own procfs looks the same in every world (the numbering
of `World.answer`), so its lookups are determined; only what a magic-link prints depends on the tree. -/

section
variable {α β : Type}

/-- `r` is the answer to `c` of one of the worlds `S` (any of them, another one each time) -/
def Kern (S : World → Prop) (c : Call) (r : Resp) : Prop := ∃ w, S w ∧ r = w.answer c

/-- what `p` can return when every call is answered by one of the worlds `S` -/
abbrev Post (S : World → Prop) {α : Type} (p : Prog α) (Q : α → Prop) : Prop := Sat (Kern S) Top p Q

variable {S : World → Prop}

theorem post_close_then {d : Fd} {k : M β} {Q : Except Err β → Prop} (hk : Post S k Q) :
    Post S (M.bind' (M.lift (Sys.close d)) fun _ => k) Q :=
  Sat.mbind (Q' := Out Top fun _ => False) (Sat.lift (Sat.top _)) (fun _ _ => hk) fun _ h => h.elim

theorem post_wrapper {d : Fd} (hd : 0 ≤ d) {c : Call} {k : Resp → M α} {Q : Except Err α → Prop}
    (hk : ∀ w, S w → Post S (k (w.answer c)) Q) :
    Post S (M.bind' (M.ofExcept (Sys.hotfix d)) fun _ => M.bind' (M.call c) k) Q := by
  rw [hotfix_tree hd]
  exact Sat.call trivial fun r ⟨w, hw, hr⟩ => hr ▸ hk w hw

theorem post_intoPath : Post S (Procfs.intoPath .threadSelf procRoot) (Out (· = b!"thread-self") fun _ => False) := by
  refine SatE.bind (V' := Top) (E' := fun _ => False) (Sat.lift (Sat.top _)) (fun _ h => h) fun tid _ => ?_
  -- the first candidate is `thread-self`, which every world has
  refine SatE.bind (V' := (· = true)) (E' := fun _ => False) (Sat.lift ?_) (fun _ h => h) fun b hb => by cases hb; exact SatE.pure rfl
  exact Sat.call trivial fun r ⟨w, _, hr⟩ => hr ▸ Sat.ret rfl

/-- procfs objects of a world: what `fstatfs` reports as procfs -/
def IsProc (d : Fd) : Prop := d = threadSelf ∨ d = procRoot ∨ d % 2 = 1

/-- every world answers `statx` with a mask and a mount id: under these answers the mount-id probe never fails -/
theorem post_statx (d : Fd) (hd : 0 ≤ d) (n : Bytes) (mask : Nat) :
    Post S (Sys.statx d n mask) (Out Top fun _ => False) :=
  post_wrapper hd fun w _ => by
    simp only [World.answer]
    by_cases hc : d = threadSelf ∨ d = procRoot ∨ d % 2 = 1 <;> simp only [hc, ↓reduceIte] <;> exact SatE.pure trivial

theorem post_fetchMntId (d : Fd) (hd : 0 ≤ d) (n : Bytes) :
    Post S (Procfs.fetchMntId d n) (Out Top fun _ => False) :=
  SatE.bind (SatE.try' (post_statx d hd n _)) (fun _ h => h.1) fun r hr => by
    cases r with
    | ok v => exact SatE.pure trivial
    | error _ => exact hr.1.elim

theorem post_verifySameMnt (m : Option Nat) (d : Fd) (hd : 0 ≤ d) (n : Bytes) :
    Post S (Procfs.verifySameMnt m d n) (Out Top (· = .os EXDEV)) :=
  SatE.bind (post_fetchMntId d hd n) (fun _ h => h.elim) fun _ _ => Sat.ite (fun _ => SatE.throw rfl) fun _ => SatE.pure trivial

theorem post_fstatfs (d : Fd) (hd : 0 ≤ d) :
    Post S (Sys.fstatfs d) (Out (fun t => t = PROC_SUPER_MAGIC → IsProc d) fun _ => False) :=
  post_wrapper hd fun w _ => by
    simp only [World.answer]
    by_cases hc : d = threadSelf ∨ d = procRoot ∨ d % 2 = 1 <;> simp only [hc, ↓reduceIte]
    · exact SatE.pure fun _ => hc
    · exact SatE.pure fun h => absurd h (by decide)

theorem post_verifyIsProcfs (d : Fd) (hd : 0 ≤ d) :
    Post S (Procfs.verifyIsProcfs d) (Out (fun _ => IsProc d) (· = .os EXDEV)) :=
  SatE.bind (post_fstatfs d hd) (fun _ h => h.elim) fun _ ht => Sat.ite (fun _ => SatE.throw rfl) fun hne => SatE.pure (ht (Decidable.not_not.mp hne))

theorem post_verifyProc (m : Nat) (d : Fd) (hd : 0 ≤ d) :
    Post S (Procfs.verifySameProcfsMnt (aenv m).proc d) (Out (fun _ => IsProc d) (· = .os EXDEV)) :=
  SatE.bind (post_verifySameMnt _ d hd []) (fun _ h => h) fun _ _ => post_verifyIsProcfs d hd

/-- an `openat2` that every world answers alike, with `R`: the descriptor `R` carries, or an error when it carries none -/
theorem post_openat2 (d : Fd) (hd : 0 ≤ d) (p : Bytes) (hp : p.contains 0 = false) (fl rs : Nat) (R : Resp)
    (hR : ∀ w : World, w.answer (.openat2 d p (fl ||| O_CLOEXEC) 0 rs OPEN_HOW_SIZE) = R) :
    Post S (Sys.openat2 d p fl rs) (Out (fun fd => R = .fd fd) fun _ => ∀ fd, R ≠ .fd fd) := by
  unfold Sys.openat2
  rw [if_neg (by rw [hp]; simp), toCString_id _ hp]
  refine post_wrapper hd fun w _ => ?_
  rw [hR w]
  cases R with
  | fd n => exact SatE.pure rfl
  | err e => exact (Sys.failWith_satE Pass.top _ _).mono (Out.mono (fun _ h => h) fun _ _ _ => nofun)
  | _ => exact SatE.throw fun _ => nofun

theorem post_resolve (m : Nat) (d : Fd) (hd : 0 ≤ d) (p : Bytes) (hp : p.contains 0 = false) (fl : Nat) (R : Resp)
    (hfl : (hasAny fl (O_CREAT ||| O_EXCL) || hasAll fl O_TMPFILE) = false)
    (hR : ∀ (w : World) (fl rs : Nat), w.answer (.openat2 d p fl 0 rs OPEN_HOW_SIZE) = R) :
    Post S (Procfs.resolve (aenv m) (aenv m).proc.emulated d p fl 0) (Out (fun fd => R = .fd fd) fun _ => ∀ fd, R ≠ .fd fd) := by
  unfold Procfs.resolve Procfs.openat2Resolve
  have hemu : (aenv m).proc.emulated = false := rfl
  have ho2 : (aenv m).openat2 = true := rfl
  simp only [hfl, hemu, ho2, Bool.false_eq_true, ↓reduceIte, Bool.not_true]
  exact post_openat2 d hd p hp _ _ R (fun w => hR w _ _)

/-- resolve, verify on the descriptor, return it: `open_base` and the lookup below it end the same way -/
theorem post_verified (m : Nat) {R : Resp} (hR0 : ∀ fd, R = .fd fd → 0 ≤ fd) {p : M Fd}
    (hp : Post S p (Out (fun fd => R = .fd fd) fun _ => ∀ fd, R ≠ .fd fd)) :
    Post S (M.bind' p fun fd => M.bind' ((Procfs.verifySameProcfsMnt (aenv m).proc fd).onErr (Sys.close fd)) fun _ => pure fd)
      (Out (fun fd => R = .fd fd ∧ IsProc fd) fun e => e = .os EXDEV ∨ ∀ fd, R ≠ .fd fd) :=
  SatE.bind hp (fun _ => .inr) fun fd hfd =>
    SatE.bind (Sat.onErr (post_verifyProc m fd (hR0 fd hfd)) (Sat.top _)) (fun _ => .inl) fun _ hproc => SatE.pure ⟨hfd, hproc⟩

theorem post_openBase (m : Nat) :
    Post S (Procfs.openBase (aenv m) (aenv m).proc .threadSelf) (Out (· = threadSelf) (· = .os EXDEV)) := by
  unfold Procfs.openBase
  refine SatE.bind post_intoPath (fun _ h => h.elim) fun path hpath => ?_
  cases hpath
  exact (post_verified m (fun fd h => by cases h; decide) (post_resolve m procRoot (by decide) b!"thread-self" (by decide) _
    (.fd threadSelf) (by decide) answer_proc_ts)).mono
    (Out.mono (fun _ h => (Resp.fd.inj h.1).symm) fun _ h => h.resolve_right fun h => h _ rfl)

theorem post_openH (m : Nat) (sub : Bytes) (hsub : sub.contains 0 = false) (fl : Nat) (R : Resp)
    (hR0 : ∀ fd, R = .fd fd → 0 ≤ fd)
    (hfl : (hasAny (fl ||| O_NOFOLLOW) (O_CREAT ||| O_EXCL) || hasAll (fl ||| O_NOFOLLOW) O_TMPFILE) = false)
    (hR : ∀ (w : World) (fl rs : Nat), w.answer (.openat2 threadSelf sub fl 0 rs OPEN_HOW_SIZE) = R) :
    Post S (Procfs.openH (aenv m) Procfs.retryFuel (aenv m).proc .threadSelf sub fl)
      (Out (fun fd => R = .fd fd ∧ IsProc fd) fun e => e = .os EXDEV ∨ ∀ fd, R ≠ .fd fd) := by
  rw [Procfs.retryFuel_eq, Procfs.openH]
  unfold Procfs.openStep Procfs.lookupVerified
  refine SatE.bind (post_openBase m) (fun _ => .inl) fun basedir hb => ?_
  cases hb
  refine SatE.bind (SatE.try' (post_verified m hR0 (post_resolve m threadSelf (by decide) sub hsub _ R hfl hR)))
    (fun e h => h.1) fun first hfirst => ?_
  cases first with
  | ok fd => exact post_close_then (SatE.pure hfirst)
  | error e =>
    have hsub' : (aenv m).proc.isSubset = false := rfl
    simp only [hsub', Bool.false_eq_true, false_and, ↓reduceIte]
    exact post_close_then (SatE.throw hfirst.1)

/-- what the magic-link `thread-self/fd/<f>` prints in `w` -/
def printed (w : World) (f : Fd) : Bytes :=
  match w.dpath f with
  | some p => w.render p
  | none => [0]

theorem int_link_cases (f : Int) (h0 : 0 ≤ f) (h : f + 1 = 2 ∨ f + 1 = 0 ∨ (f + 1) % 2 = 1) :
    0 ≤ f + 1 ∧ (f = 1 ∨ (f % 2 = 0 ∧ (f + 1) % 2 = 1 ∧ f + 1 - 1 = f)) := by omega

/-- reading the link `thread-self/fd/<f>` of a procfs whose `thread-self` is never a symlink: only for an even `f`, and
then the bytes are what one of the worlds prints for `f` -/
theorem post_readlinkat_link (hk : ∀ w, S w → w.kind threadSelf ≠ .lnk) (f : Fd) (h0 : 0 ≤ f) (hp : IsProc (f + 1)) :
    Post S (Sys.readlinkat (f + 1) [])
      (Out (fun b => f % 2 = 0 ∧ ∃ w, S w ∧ b = printed w f) fun e => f % 2 = 0 → e = .os ENAMETOOLONG) :=
  post_wrapper (int_link_cases f h0 hp).1 fun w hw => by
    simp only [World.answer, ne_eq, not_true_eq_false, ↓reduceIte]
    obtain rfl | ⟨hev, hodd, hsub⟩ := (int_link_cases f h0 hp).2
    · have : w.kind (1 + 1) ≠ .lnk := hk w hw
      simp only [show ¬ ((1 : Int) + 1) % 2 = 1 by decide, this, ↓reduceIte]
      exact (Sys.failWith_satE Pass.top _ _).mono (Out.mono (fun _ h => h) fun _ _ h => absurd h (by decide))
    · rw [if_pos hodd, hsub]
      have hpr : printed w f = match w.dpath f with | some p => w.render p | none => [0] := rfl
      cases hd : w.dpath f <;> simp only [hd] at hpr ⊢ <;>
        exact Sat.ite (fun _ => (Sys.failWith_satE Pass.top _ _).mono (Out.mono (fun _ h => h) fun _ h _ => h))
          fun _ => SatE.pure ⟨hev, w, hw, hpr.symm⟩

theorem post_readlinkH (hk : ∀ w, S w → w.kind threadSelf ≠ .lnk) (m : Nat) (f : Fd) (h0 : 0 ≤ f) :
    Post S (Procfs.readlinkH (aenv m) (aenv m).proc .threadSelf (b!"fd/" ++ Path.decimal f.toNat))
      (Out (fun b => f % 2 = 0 ∧ ∃ w, S w ∧ b = printed w f) fun e => f % 2 = 0 → e = .os EXDEV ∨ e = .os ENAMETOOLONG) := by
  unfold Procfs.readlinkH
  refine SatE.bind (post_openH m _ (fdpath_no_nul _) O_PATH (.fd (f + 1)) (fun fd h => by cases h; exact Int.add_nonneg h0 (by decide))
      (by decide) (answer_ts_fd f h0)) (fun _ h _ => .inl (h.resolve_right fun h => h _ rfl))
    fun link hl => ?_
  obtain ⟨hl, hproc⟩ := hl
  cases hl
  exact (SatE.try_then (post_readlinkat_link hk f h0 hproc) (Sat.top _)).mono (Out.mono (fun _ h => h) fun _ h hev => .inr (h hev))

/-- **What `as_unsafe_path` returns when every call is answered by one of the worlds `S`** (none of which has a
symlink for `thread-self`): only for an even non-negative descriptor, and then what one of the worlds prints for it. -/
theorem post_asUnsafePath (hk : ∀ w, S w → w.kind threadSelf ≠ .lnk) (m : Nat) (f : Fd) :
    Post S (Procfs.asUnsafePath (aenv m) f) (Ok fun b => 0 ≤ f ∧ f % 2 = 0 ∧ ∃ w, S w ∧ b = printed w f) := by
  unfold Procfs.asUnsafePath Sys.procSubpath
  by_cases hcwd : f = AT_FDCWD
  · -- `thread-self/cwd`: no world has it
    rw [if_pos hcwd]
    show Post S (Procfs.readlinkH (aenv m) (aenv m).proc .threadSelf b!"cwd") _
    unfold Procfs.readlinkH
    have hR : ∀ (w : World) (fl rs : Nat), w.answer (.openat2 threadSelf b!"cwd" fl 0 rs OPEN_HOW_SIZE) = .err ENOENT :=
      fun w fl rs => by simp [World.answer, threadSelf, procRoot, List.isPrefixOf]
    exact SatE.bind (post_openH m b!"cwd" (by decide) O_PATH (.err ENOENT) (fun _ => nofun) (by decide) hR) (fun _ _ => trivial)
      fun link hl => nomatch hl.1
  · by_cases h0 : f ≥ 0
    · rw [if_neg hcwd, if_pos h0]
      exact (post_readlinkH hk m f h0).mono (Out.mono (fun _ hx => ⟨h0, hx⟩) fun _ _ => trivial)
    · rw [if_neg hcwd, if_neg h0]
      exact SatE.throw trivial

end

/-- the worlds of the moments of a history -/
def During (ws : Nat → World) (i0 n : Nat) (w : World) : Prop := ∃ t, i0 ≤ t ∧ t < i0 + n ∧ w = ws t

theorem kern_of_ansSeq {ws : Nat → World} {i0 : Nat} {H : Hist} (hans : AnsSeq ws i0 H) {h l : Hist} (hp : h ++ l <+: H) :
    ∀ x ∈ l, Kern (During ws i0 H.length) x.1 x.2 := by
  intro x hx
  obtain ⟨k, hk, rfl⟩ := List.getElem_of_mem (hp.subset (List.mem_append_right _ hx))
  exact ⟨ws (i0 + k), ⟨i0 + k, Nat.le_add_right _ _, Nat.add_lt_add_left hk _, rfl⟩, hans k hk⟩

theorem asUnsafePath_during {ws : Nat → World} {i0 : Nat} {H : Hist} (hans : AnsSeq ws i0 H)
    (hk : ∀ i, (ws i).kind threadSelf ≠ .lnk) (m : Nat) {f : Fd} {hA hB : Hist} {b : Bytes}
    (hr : Runs (Procfs.asUnsafePath (aenv m) f) hA hB (.ok b)) (hpre : hB <+: H) :
    0 ≤ f ∧ f % 2 = 0 ∧ ∃ w, During ws i0 H.length w ∧ b = printed w f := by
  obtain ⟨l, rfl, hl⟩ := (post_asUnsafePath (S := During ws i0 H.length) (fun w ⟨t, _, _, e⟩ => e ▸ hk t) m f).runs hr
  exact (hl (kern_of_ansSeq hans hpre)).2

/-- **What `as_unsafe_path` read**, when every call of the run is answered by the world of its moment: the descriptor
is an even number (the procfs lookup of `thread-self/fd/<f>` returns object `f + 1`, which passes
`fstatfs = PROC_SUPER_MAGIC` only if it is odd or the thread-self directory, and the latter cannot be read as a link),
and the bytes are what `d_path` printed for it at the moment `t` of the `readlinkat`. -/
theorem asUnsafePath_seq {ws : Nat → World} {i0 : Nat} {H : Hist} (hans : AnsSeq ws i0 H)
    (hk : ∀ i, (ws i).kind threadSelf ≠ .lnk) (m : Nat) {f : Fd} {hA hB : Hist} {b : Bytes}
    (hr : Runs (Procfs.asUnsafePath (aenv m) f) hA hB (.ok b)) (hpre : hB <+: H) :
    ∃ t, i0 ≤ t ∧ t < i0 + H.length ∧ f % 2 = 0 ∧
      b = match (ws t).dpath f with
          | some p => (ws t).render p
          | none => [0] := by
  obtain ⟨_, hev, w, ⟨t, a, b', rfl⟩, rfl⟩ := asUnsafePath_during hans hk m hr hpre
  exact ⟨t, a, b', hev, rfl⟩

theorem AnsSeq.of_prefix {ws : Nat → World} {i0 : Nat} {H hm : Hist} (hans : AnsSeq ws i0 H) (hpre : hm <+: H) :
    AnsSeq ws i0 hm := by
  intro k hk
  obtain ⟨t, rfl⟩ := hpre
  have h2 := hans k (by rw [List.length_append]; exact Nat.lt_add_right _ hk)
  simp only [List.getElem_append_left hk] at h2
  exact h2

/-- **The emulated lookup as a sub-run of a history answered by the moments** (`hm`: everything up to and including the
lookup, the first entry answered at moment `i0`; the lookup itself starts after `h`): a descriptor it returns refers to
an object that was below the root at one of the moments of `hm`, and it is a tree object's number (even, not
negative: what the re-open of `open_subpath` needs). -/
theorem emulated_resolve_sub {ws : Nat → World} {root : Fd} {rc : List Bytes} {m : Nat}
    (ha : Attacker ws root rc m) {path : Bytes} {rflags : Nat} {nofollow : Bool} {i0 : Nat} {h hm : Hist} {fd : Fd}
    (hans : AnsSeq ws i0 hm) (hruns : Runs (Opath.resolve (aenv m) root path rflags nofollow) h hm (.ok fd)) :
    (0 ≤ fd ∧ fd % 2 = 0) ∧ ∃ i p, i0 ≤ i ∧ i < i0 + hm.length ∧ (ws i).dpath fd = some p := by
  obtain ⟨rd, hdup, hwf⟩ := C02_emulated_checked _ _ _ _ _ hruns
  -- the walk's duplicate of the root is the root
  have hrd : rd = root := by
    have h1 := (ans_at hans (pre := h) rfl hdup).1
    simp only [World.answer] at h1
    cases h1; rfl
  subst hrd
  obtain ⟨exp, h0, h1, tail, hgood, _, hH, hcase⟩ := hwf
  have hp1 : h1 <+: hm := ⟨tail, hH.symm⟩
  rcases hcase with ⟨hc, _⟩ | ⟨hc, t2, htail, _⟩
  · -- the last check was on the descriptor returned
    obtain ⟨rootPath, curPath, rootPath2, hA, hB, r1, r2, r3, _, hcomp⟩ := checked_below_root hc hgood
    have pB : hB <+: hm := (Runs.isPrefix r3).trans hp1
    have pA : hA <+: hm := (Runs.isPrefix r2).trans pB
    obtain ⟨t1, _, _, _, e1⟩ := asUnsafePath_seq hans ha.threadSelf_kind m r1 pA
    rw [ha.root_path] at e1
    dsimp only at e1
    obtain ⟨hnn, hev, _, ⟨t, hta, htb, rfl⟩, e2⟩ := asUnsafePath_during hans ha.threadSelf_kind m r2 pB
    unfold printed at e2
    refine ⟨⟨hnn, hev⟩, ?_⟩
    cases hd : (ws t).dpath fd with
    | some p => exact ⟨t, p, hta, htb, hd⟩
    | none =>
      rw [hd] at e2
      dsimp only at e2
      subst e1 e2
      have hcmp := hcomp (render_abs _ _)
      rw [components_nul, KPath.components_abs _ (render_abs _ _)] at hcmp
      simp at hcmp
  · -- the walk ended on its root duplicate: the result is `openat(root, ".")`, the root itself
    have hopen : h1 ++ [(Call.openat rd Path.dot (O_PATH ||| O_NOFOLLOW ||| O_NOFOLLOW ||| O_CLOEXEC ||| O_NOCTTY) 0,
        Resp.fd fd)] <+: hm := ⟨t2, by rw [hH, htail]; exact List.append_assoc ..⟩
    obtain ⟨hresp, hlt⟩ := ans_at hans rfl hopen
    have hfd : fd = rd := answer_openat_dot _ _ (tree_ne_fdDir ha.root_tree) _ _ _ hresp
    exact ⟨by rw [hfd]; exact ⟨tree_nonneg ha.root_tree, ha.root_tree.2⟩,
      i0 + h1.length, [], Nat.le_add_right .., Nat.add_lt_add_left hlt _, by rw [hfd]; exact ha.root_path _⟩

/-- non-vacuity of the attacker model: the constant sequence of a well-formed world is an attack (by nobody).  (`World.WF`
says nothing about the kinds of the procfs objects, hence `hts`.) -/
theorem attacker_const (w : World) (hw : w.WF) (hts : w.kind threadSelf ≠ .lnk) :
    Attacker (fun _ => w) w.root w.rootComps w.procMnt :=
  ⟨hw.root_tree, fun _ => hw.root_path, fun _ => hts⟩

theorem runSeq_const {α : Type} (w : World) (p : Prog α) (i : Nat) : (runSeq (fun _ => w) i p).1 = Prog.run w p := by
  induction p generalizing i with
  | ret a => rfl
  | call c k ih => exact ih _ _

theorem ex_run : (runSeq (fun _ => exWorld) 0 (Opath.resolve (aenv exWorld.procMnt) exWorld.root b!"a" 0 true)).1 = .ok 6 := by
  refine (runSeq_const exWorld _ 0).trans ?_
  show Prog.run exWorld (Opath.resolve (KRun.kenv exWorld) exWorld.root b!"a" 0 true) = .ok 6
  rw [KSpec.run_opath_resolve exWorld_wf, exWorld_resolve_a _ rfl]
  rfl

/-! ### `Attacker.threadSelf_kind` cannot be dropped

The world of the comment at that field: everything of `Attacker` but `threadSelf_kind` holds of its constant sequence,
the lookup of `a` returns object 1, and object 1 is not below the root at any moment.  (The run is evaluated, not
proved: `#guard` is a build-time test and contributes nothing to the theorems above.) -/

/-- a world in which libpathrs' `thread-self` directory claims to be a symlink with body `/a` -/
def badWorld : World :=
  { root := 4
    kind := fun d => if d = 4 then .dir else if d = 2 then .lnk else .other
    child := fun d n => if d = 4 ∧ n = b!"a" then some 1 else none
    parent := fun _ => 4
    body := fun _ => b!"/a"
    dpath := fun d => if d = 4 then some [] else none
    rootComps := []
    procMnt := 22
    kernelLinks := 40 }

example : isTree badWorld.root ∧ badWorld.dpath badWorld.root = some [] ∧ badWorld.dpath 1 = none ∧
    badWorld.kind threadSelf = .lnk := by
  refine ⟨?_, rfl, rfl, rfl⟩
  show isTree 4
  unfold isTree; decide

#guard
  match (runSeq (fun _ => badWorld) 0 (Opath.resolve (aenv badWorld.procMnt) badWorld.root b!"a" 0 true)).1 with
  | .ok 1 => true
  | _ => false

end Attack
