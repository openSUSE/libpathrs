import Pathrs.Flags

/-!
# Facts about flag words (`hasAll`, `hasAny`, `clearBits`)

Each of the three is characterised once bit by bit; the other facts are read off the characterisation.
-/

open K

theorem hasAll_iff (f m : Nat) : hasAll f m = true ↔ ∀ i, m.testBit i = true → f.testBit i = true := by
  simp only [hasAll, decide_eq_true_eq]
  constructor
  · intro h i hm
    have := congrArg (fun x => x.testBit i) h
    simpa [Nat.testBit_and, hm] using this
  · intro h
    apply Nat.eq_of_testBit_eq
    intro i
    simpa [Nat.testBit_and] using h i

theorem hasAny_iff (f m : Nat) : hasAny f m = true ↔ ∃ i, f.testBit i = true ∧ m.testBit i = true := by
  simp only [hasAny, ne_eq, decide_not, Bool.not_eq_eq_eq_not, Bool.not_true, decide_eq_false_iff_not]
  constructor
  · intro h
    obtain ⟨i, hi⟩ := Nat.exists_testBit_of_ne_zero h
    exact ⟨i, by simpa [Nat.testBit_and] using hi⟩
  · rintro ⟨i, hf, hm⟩ h0
    have := congrArg (fun x => x.testBit i) h0
    simp [Nat.testBit_and, hf, hm] at this

theorem testBit_clearBits (f n i : Nat) : (clearBits f n).testBit i = (f.testBit i && !n.testBit i) := by
  simp only [clearBits, Nat.testBit_and, Nat.testBit_xor]
  cases f.testBit i <;> cases n.testBit i <;> rfl

/-! ## `hasAll`, `hasAny` under `|||` -/

theorem hasAll_or_left (f m : Nat) : hasAll (f ||| m) m = true :=
  (hasAll_iff _ _).2 fun i hm => by simp [Nat.testBit_or, hm]

theorem hasAll_or_right (m f : Nat) : hasAll (m ||| f) m = true :=
  (hasAll_iff _ _).2 fun i hm => by simp [Nat.testBit_or, hm]

theorem hasAll_or_mono (f m k : Nat) (h : hasAll f m = true) : hasAll (f ||| k) m = true :=
  (hasAll_iff _ _).2 fun i hm => by simp [Nat.testBit_or, (hasAll_iff _ _).1 h i hm]

theorem hasAll_sub (f m k : Nat) (h : hasAll f m = true) (hk : hasAll m k = true) : hasAll f k = true :=
  (hasAll_iff _ _).2 fun i hi => (hasAll_iff _ _).1 h i ((hasAll_iff _ _).1 hk i hi)

theorem hasAny_or_mono (f d m : Nat) (h : hasAny f m = true) : hasAny (f ||| d) m = true := by
  obtain ⟨i, hf, hm⟩ := (hasAny_iff _ _).1 h
  exact (hasAny_iff _ _).2 ⟨i, by simp [Nat.testBit_or, hf], hm⟩

theorem or_and_disj (x y m : Nat) (h : y &&& m = 0) : (x ||| y) &&& m = x &&& m := by
  simp [Nat.and_or_distrib_right, h]

theorem hasAll_or_disj_right (f x m : Nat) (h : x &&& m = 0) : hasAll (f ||| x) m = hasAll f m := by
  simp only [hasAll, or_and_disj _ _ _ h]

theorem hasAll_or_disj_left (x f m : Nat) (h : x &&& m = 0) : hasAll (x ||| f) m = hasAll f m := by
  rw [Nat.or_comm, hasAll_or_disj_right _ _ _ h]

theorem clearBits_and (f n m : Nat) (h : m &&& n = 0) : clearBits f n &&& m = f &&& m := by
  apply Nat.eq_of_testBit_eq
  intro i
  have := congrArg (fun x => x.testBit i) h
  simp only [Nat.testBit_and, Nat.zero_testBit] at this
  simp only [Nat.testBit_and, testBit_clearBits]
  cases hm : m.testBit i <;> cases hn : n.testBit i <;> simp_all

theorem clearBits_and_self (f n : Nat) : clearBits f n &&& n = 0 := by
  apply Nat.eq_of_testBit_eq
  intro i
  simp only [Nat.testBit_and, testBit_clearBits, Nat.zero_testBit]
  cases f.testBit i <;> cases n.testBit i <;> rfl

/-! ## `O_CREAT` is a single bit -/

theorem hasAll_creat (x : Nat) : hasAll x O_CREAT = x.testBit 6 := by
  have h : O_CREAT = 2 ^ 6 := rfl
  rw [Bool.eq_iff_iff, hasAll_iff, h]
  constructor
  · intro hx; exact hx 6 (by decide)
  · intro hx i hi
    rw [Nat.testBit_two_pow] at hi
    rw [← of_decide_eq_true hi]; exact hx

theorem hasAll_creat_or (a b : Nat) : hasAll (a ||| b) O_CREAT = (hasAll a O_CREAT || hasAll b O_CREAT) := by
  simp only [hasAll_creat, Nat.testBit_or]

/-- the test by which every entry point that takes open flags refuses creation -/
theorem noCreat_of_guard {fl : Nat} (h : (hasAny fl (O_CREAT ||| O_EXCL) || hasAll fl O_TMPFILE) = false) :
    hasAll fl O_CREAT = false := by
  rw [Bool.or_eq_false_iff] at h
  rw [hasAll_creat, Bool.eq_false_iff]
  intro h6
  have : hasAny fl (O_CREAT ||| O_EXCL) = true := (hasAny_iff _ _).2 ⟨6, h6, by decide⟩
  rw [h.1] at this
  cases this

theorem and_two_pow_cases (fl i : Nat) : fl &&& 2 ^ i = 0 ∨ fl &&& 2 ^ i = 2 ^ i := by
  by_cases h : fl.testBit i = true
  · right; apply Nat.eq_of_testBit_eq; intro j
    simp only [Nat.testBit_and, Nat.testBit_two_pow]
    by_cases hj : i = j
    · subst hj; simp [h]
    · simp [hj]
  · left; apply Nat.eq_of_testBit_eq; intro j
    simp only [Nat.testBit_and, Nat.testBit_two_pow, Nat.zero_testBit]
    by_cases hj : i = j
    · subst hj; simp [h]
    · simp [hj]

/-- the flags are a plain `O_PATH` as far as `O_PATH`, `O_NOFOLLOW` and `O_DIRECTORY` go (the test by which the procfs
resolver decides whether the last component needs a second open) -/
theorem plainOPath_iff (fl : Nat) :
    fl &&& (O_PATH ||| O_NOFOLLOW ||| O_DIRECTORY) = O_PATH ↔
      (hasAll fl O_PATH = true ∧ hasAll fl O_NOFOLLOW = false ∧ hasAll fl O_DIRECTORY = false) := by
  have hP : O_PATH = 2 ^ 21 := by decide
  have hN : O_NOFOLLOW = 2 ^ 17 := by decide
  have hD : O_DIRECTORY = 2 ^ 16 := by decide
  rw [Nat.and_or_distrib_left, Nat.and_or_distrib_left]
  simp only [hasAll, hP, hN, hD]
  rcases and_two_pow_cases fl 21 with h1 | h1 <;> rcases and_two_pow_cases fl 17 with h2 | h2 <;>
    rcases and_two_pow_cases fl 16 with h3 | h3 <;> rw [h1, h2, h3] <;> decide

/-- `fetch_mnt_id` asks for `STATX_WANT` and tests the answer's mask against the same word -/
theorem hasAny_statxWant : hasAny STATX_WANT STATX_WANT = true := by decide
