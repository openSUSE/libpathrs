import Pathrs.Proofs.Exec

/-!
# The operations on (parent, final name)

`Root::create`, `create_file`, `remove_file`/`remove_dir`, `remove_all` and the lookup of a hard link's target are one
program with a different body: resolve the parent part of the path, refuse a trailing slash, run the body on
(parent descriptor, final name), close the parent.
-/

open K

namespace Root

def withParent {α : Type} (env : Env) (root : Root) (path : Bytes) (body : Fd → Bytes → M α) : M α := do
  let (dir, name) ← resolveParent env root path
  match name with
  | none =>
    (Sys.close dir : Prog Unit)
    throw .invalidArgument
  | some name =>
    let r ← M.try' (body dir name)
    (Sys.close dir : Prog Unit)
    M.ofExcept r

theorem withParent_split {α : Type} (env : Env) (root : Root) {path parent : Bytes} {name : Option Bytes}
    (body : Fd → Bytes → M α) (h : Path.pathSplit path = .ok (parent, name)) :
    withParent env root path body =
      M.bind' (Resolver.resolve env root.resolver root.fd parent false) fun dir =>
        match name with
        | none => M.bind' (M.lift (Sys.close dir)) fun _ => throw .invalidArgument
        | some name =>
          M.bind' (M.try' (body dir name)) fun r => M.bind' (M.lift (Sys.close dir)) fun _ => M.ofExcept r := by
  unfold withParent resolveParent
  rw [h]
  show M.bind' (M.bind' (M.ofExcept (.ok (parent, name))) _) _ = _
  rw [M.ofExcept_ok, M.bind_ok]
  show M.bind' (M.bind' (Resolver.resolve env root.resolver root.fd parent false) _) _ = _
  rw [M.bind'_assoc]
  rfl

theorem removeInode_eq (env : Env) (root : Root) (path : Bytes) (isDir : Bool) :
    removeInode env root path isDir =
      withParent env root path fun dir name => Sys.unlinkat dir name (if isDir then AT_REMOVEDIR else 0) := rfl

theorem create_eq (env : Env) (root : Root) (path : Bytes) (ty : InodeType) :
    create env root path ty = withParent env root path fun dir name => createCall env root dir name ty := rfl

theorem createCall_hardlink (env : Env) (root : Root) (dir : Fd) (name target : Bytes) :
    createCall env root dir name (.hardlink target) =
      withParent env root target fun olddir oldname => Sys.linkat olddir oldname dir name 0 := rfl

theorem createFile_eq (env : Env) (root : Root) (path : Bytes) (flags perm : Nat) :
    createFile env root path flags perm =
      withParent env root path fun dir name => createFileOpen dir name flags perm := rfl

theorem removeAll_eq (env : Env) (root : Root) (path : Bytes) :
    removeAll env root path = withParent env root path (RemoveAll.removeAll removeAllFuel) := rfl

end Root
