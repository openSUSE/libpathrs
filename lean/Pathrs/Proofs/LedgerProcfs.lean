import Pathrs.Proofs.LedgerSys

/-!
# Ledger rules of the procfs layer
-/

open K

namespace LedgerLogic

variable {ext : List Fd}

theorem intoPath_probe_led (root : Fd) (cands : List Bytes) :
    Led ext [] (Procfs.intoPath.probe root cands) fun _ => [] := by
  induction cands with
  | nil => exact Led.pure rfl
  | cons c rest ih =>
    exact (Led.lift (existsAt_led root c)).bind fun ok => Led.ite (fun _ => Led.pure rfl) fun _ => ih

theorem intoPath_led (base : Procfs.Base) (root : Fd) : Led ext [] (Procfs.intoPath base root) fun _ => [] := by
  cases base with
  | root => exact Led.pure rfl
  | self => exact Led.pure rfl
  | threadSelf => exact (Led.lift gettid_led).bind fun tid => intoPath_probe_led root _

theorem fetchMntId_led (dir : Fd) (path : Bytes) : Led ext [] (Procfs.fetchMntId dir path) fun _ => [] := by
  unfold Procfs.fetchMntId
  refine ((statx_led dir path _).try' []).bind fun r => ?_
  split
  · exact Led.pure rfl
  · exact Led.ite (fun _ => Led.pure rfl) fun _ => Led.throw
  · exact Led.throw

theorem verifySameMnt_led (m : Option Nat) (dir : Fd) (path : Bytes) :
    Led ext [] (Procfs.verifySameMnt m dir path) fun _ => [] := by
  unfold Procfs.verifySameMnt
  exact (fetchMntId_led dir path).bind fun _ => Led.ite (fun _ => Led.throw) fun _ => Led.pure rfl

theorem verifyIsProcfs_led (fd : Fd) : Led ext [] (Procfs.verifyIsProcfs fd) fun _ => [] := by
  unfold Procfs.verifyIsProcfs
  exact (fstatfs_led fd).bind fun _ => Led.ite (fun _ => Led.throw) fun _ => Led.pure rfl

theorem verifySameProcfsMnt_led (h : ProcH) (fd : Fd) :
    Led ext [] (Procfs.verifySameProcfsMnt h fd) fun _ => [] := by
  unfold Procfs.verifySameProcfsMnt
  exact (verifySameMnt_led _ fd []).bind fun _ => verifyIsProcfs_led fd

theorem openat2Resolve_led (env : Env) (root : Fd) (path : Bytes) (oflags rflags : Nat) :
    Led ext [] (Procfs.openat2Resolve env root path oflags rflags) fun fd => [fd] :=
  Led.ite (fun _ => Led.throw) fun _ => openat2_led _ _ _ _

theorem opathFinal_led (m : Option Nat) (oflags : Nat) (cur next : Fd) (part : Bytes) (isLink : Bool) :
    Led ext [next, cur] (Procfs.opathFinal m oflags cur next part isLink)
      fun fin => fin.elim [next, cur] fun fd => [fd] := by
  unfold Procfs.opathFinal
  refine ((openat_led cur part _ 0).try' [next, cur]).bind fun x => ?_
  cases x with
  | ok fin =>
    refine ((verifySameMnt_led m fin []).onErr [fin, next, cur] (LedP.closeAll _)).bind fun _ => ?_
    exact Led.perm (List.perm_append_comm (l₁ := [fin])) (Led.closeAll_then [next, cur] (Led.pure rfl))
  | error _ => exact Led.ite (fun _ => Led.closeAll_then [next, cur] Led.throw) fun _ => Led.pure rfl

theorem opathLoop_led (m : Option Nat) (oflags rflags : Nat) (cur : Fd) (rem : List Bytes) (links : Nat) :
    Led ext [cur] (Procfs.opathLoop m oflags rflags cur rem links) fun fd => [fd] := by
  fun_induction Procfs.opathLoop m oflags rflags cur rem links with
  | case1 cur links => exact Led.pure rfl
  | case2 cur links part0 rest part hdd => exact Led.close_then cur Led.throw
  | case3 cur links part0 rest part hdd ih1 ih2 =>
    refine ((openat_led cur part _ 0).onErr [cur] (LedP.close cur [])).bind fun next => ?_
    refine ((verifySameMnt_led m next []).onErr [next, cur] (LedP.closeAll _)).bind fun _ => ?_
    refine ((fstatat_led next []).onErr [next, cur] (LedP.closeAll _)).bind fun st => ?_
    refine Led.bind (g := fun fin => fin.elim [next, cur] fun fd => [fd])
      (Led.ite (fun _ => opathFinal_led m oflags cur next part _) fun _ => Led.pure rfl) fun fin => ?_
    cases fin with
    | some fd => exact Led.pure rfl
    | none =>
      have hthrow : Led ext [next, cur] (M.bind' (M.lift (Sys.closeAll [next, cur])) fun _ => throw (.os ELOOP))
          fun fd => [fd] := Led.closeAll_then [next, cur] Led.throw
      refine Led.ite (fun _ => Led.perm (.swap ..) (Led.close_then cur (ih1 next))) fun _ =>
        Led.ite (fun _ => hthrow) fun _ => Led.dite (fun _ => hthrow) fun hlim => ?_
      refine ((readlinkat_led next []).onErr [next, cur] (LedP.closeAll _)).bind fun target => ?_
      exact Led.ite (fun _ => hthrow) fun _ => Led.close_then next (ih2 hlim target)

theorem opathResolve_led (root : Fd) (path : Bytes) (oflags rflags : Nat) :
    Led ext [] (Procfs.opathResolve root path oflags rflags) fun fd => [fd] :=
  Led.ite (fun _ => Led.throw) fun _ => (fetchMntId_led root []).bind fun m => (dup_led root).bind fun cur =>
    opathLoop_led m oflags rflags cur _ 0

theorem resolve_led (env : Env) (emulated : Bool) (root : Fd) (path : Bytes) (oflags rflags : Nat) :
    Led ext [] (Procfs.resolve env emulated root path oflags rflags) fun fd => [fd] :=
  Led.ite (fun _ => Led.throw) fun _ => Led.ite (fun _ => opathResolve_led root path oflags rflags) fun _ =>
    openat2Resolve_led env root path oflags rflags


/-! The next three cannot fail (short of a fatal model error): they keep any `R`, which `Led` could not say of
a program that may fail. -/

theorem missing_led (R : List Fd) (inner : Fd) (name : Bytes) :
    Led ext R (Procfs.missing inner name) fun _ => R := by
  unfold Procfs.missing
  refine Led.call rfl fun r => ?_
  split
  · exact Led.pure rfl
  · exact Led.pure rfl
  · exact Led.throw_fatal rfl

theorem probeSubset_led (R : List Fd) (inner : Fd) : Led ext R (Procfs.probeSubset inner) fun _ => R := by
  unfold Procfs.probeSubset
  exact (missing_led R inner _).bind fun m1 => Led.ite (fun _ => Led.pure rfl) fun _ => missing_led R inner _

theorem setSubsetOptions_led (R : List Fd) (sfd : Fd) (subset : Bool) :
    Led ext R (Procfs.setSubsetOptions sfd subset) fun _ => R := by
  refine Led.ite (fun _ => ?_) fun _ => Led.pure rfl
  refine ((fsconfigSetString_led sfd _ _).try' R).bind fun x => ?_
  cases x <;> refine ((fsconfigSetString_led sfd _ _).try' R).bind fun y => ?_ <;>
    cases y <;> exact Led.pure rfl

theorem tryFromFd_led (env : Env) (inner : Fd) : Led ext [inner] (Procfs.tryFromFd env inner) fun h => [h.fd] := by
  unfold Procfs.tryFromFd
  refine ((verifyIsProcfs_led inner).onErr [inner] (LedP.close inner [])).bind fun _ => ?_
  unfold Procfs.fstatOrPanic
  refine ((fstatat_led inner []).onErr [inner] (LedP.close inner [])).bind fun st => ?_
  refine Led.ite (fun _ => Led.close_then inner Led.throw) fun _ => ?_
  refine ((fetchMntId_led inner []).onErr [inner] (LedP.close inner [])).bind fun mnt => ?_
  exact (probeSubset_led [inner] inner).bind fun sub => Led.pure rfl

theorem newFsopen_led (env : Env) (subset : Bool) : Led ext [] (Procfs.newFsopen env subset) fun h => [h.fd] := by
  unfold Procfs.newFsopen
  refine (fsopen_led _ _).bind fun sfd => (setSubsetOptions_led [sfd] sfd subset).bind fun _ => ?_
  refine ((fsconfigCreate_led sfd).onErr [sfd] (LedP.close sfd [])).bind fun _ => ?_
  refine ((fsmount_led sfd _ _).onErr [sfd] (LedP.close sfd [])).bind fun mnt => ?_
  refine ((tryFromFd_led env mnt).onErr [sfd] (LedP.close sfd [])).bind fun h => ?_
  exact Led.perm (.swap ..) (Led.close_then sfd (Led.pure rfl))

theorem newOpenTree_led (env : Env) (flags : Nat) : Led ext [] (Procfs.newOpenTree env flags) fun h => [h.fd] :=
  (openTree_led _ _ _).bind fun fd => tryFromFd_led env fd

theorem newUnsafeOpen_led (env : Env) : Led ext [] (Procfs.newUnsafeOpen env) fun h => [h.fd] :=
  (openat_led _ _ _ _).bind fun fd => tryFromFd_led env fd

theorem orElse_led {α : Type} {p q : M α} {g : α → List Fd} (hp : Led ext [] p g) (hq : Led ext [] q g) :
    Led ext [] (Procfs.orElse p q) g := by
  unfold Procfs.orElse
  refine (hp.try' []).bind fun x => ?_
  split
  · exact Led.pure (List.append_nil _)
  · exact hq

theorem new_led (env : Env) : Led ext [] (Procfs.new env) fun h => [h.fd] :=
  orElse_led (newFsopen_led env true) (orElse_led (newOpenTree_led env _) (newUnsafeOpen_led env))

theorem newUnmasked_led (env : Env) : Led ext [] (Procfs.newUnmasked env) fun h => [h.fd] :=
  orElse_led (newFsopen_led env false) (orElse_led (newOpenTree_led env _) (newUnsafeOpen_led env))

theorem lookupVerified_led (env : Env) (h : ProcH) (basedir : Fd) (subpath : Bytes) (oflags : Nat) :
    Led ext [] (Procfs.lookupVerified env h basedir subpath oflags) fun fd => [fd] := by
  unfold Procfs.lookupVerified
  refine (resolve_led env h.emulated basedir subpath _ 0).bind fun fd => ?_
  exact ((verifySameProcfsMnt_led h fd).onErr [fd] (LedP.close fd [])).bind fun _ => Led.pure rfl

theorem openBase_led (env : Env) (h : ProcH) (base : Procfs.Base) :
    Led ext [] (Procfs.openBase env h base) fun fd => [fd] :=
  (intoPath_led base h.fd).bind fun path => lookupVerified_led env h h.fd path _

theorem openH_led (env : Env) (fuel : Nat) (h : ProcH) (base : Procfs.Base) (subpath : Bytes) (oflags : Nat) :
    Led ext [] (Procfs.openH env fuel h base subpath oflags) fun fd => [fd] := by
  induction fuel generalizing ext h oflags with
  | zero => exact Led.throw_fatal rfl
  | succ n ih =>
    refine (openBase_led env h base).bind fun basedir => ?_
    refine ((lookupVerified_led env h basedir subpath _).try' [basedir]).bind fun first => ?_
    cases first with
    | ok fd => exact Led.perm (.swap ..) (Led.close_then basedir (Led.pure rfl))
    | error _ =>
      refine Led.ite (fun _ => ?_) fun _ => Led.close_then basedir Led.throw
      refine ((newUnmasked_led env).try' [basedir]).bind fun r => ?_
      cases r with
      | error _ => exact Led.close_then basedir Led.throw
      | ok h2 =>
        exact Led.ite (fun _ => Led.closeAll_then [h2.fd, basedir] Led.throw) fun _ =>
          (ih _ _).try_then [h2.fd, basedir] fun _ => LedP.closeAll _

theorem readlinkH_led (env : Env) (h : ProcH) (base : Procfs.Base) (subpath : Bytes) :
    Led ext [] (Procfs.readlinkH env h base subpath) fun _ => [] := by
  unfold Procfs.readlinkH
  refine (openH_led env _ h base subpath _).bind fun link => ?_
  exact (readlinkat_led link []).try_then [link] fun _ => LedP.close link []

theorem asUnsafePath_led (env : Env) (fd : Fd) : Led ext [] (Procfs.asUnsafePath env fd) fun _ => [] :=
  Led.bind_ofExcept fun sub => readlinkH_led env env.proc _ sub

theorem openFollowTail_led (env : Env) (h : ProcH) (base : Procfs.Base) (subpath : Bytes) (fl : Nat) :
    Led ext [] (Procfs.openFollowTail env h base subpath fl) fun fd => [fd] := by
  unfold Procfs.openFollowTail
  refine Led.bind_ofExcept fun ⟨parent, trailing⟩ => ?_
  cases trailing with
  | none => exact Led.throw
  | some trailing =>
    refine (openH_led env _ h base parent _).bind fun pfd => ?_
    refine ((fetchMntId_led pfd []).onErr [pfd] (LedP.close pfd [])).bind fun pm => ?_
    refine ((verifySameMnt_led pm pfd trailing).onErr [pfd] (LedP.close pfd [])).bind fun _ => ?_
    exact (openatFollow_led pfd trailing fl 0).try_then [pfd] fun _ => LedP.close pfd []

theorem openFollowH_led (env : Env) (h : ProcH) (base : Procfs.Base) (subpath : Bytes) (oflags : Nat) :
    Led ext [] (Procfs.openFollowH env h base subpath oflags) fun fd => [fd] := by
  refine Led.ite (fun _ => Led.throw) fun _ => ((readlinkH_led env h base _).try' []).bind fun probe => ?_
  cases probe with
  | error _ =>
    exact Led.ite (fun _ => openH_led env _ h base _ _) fun _ =>
      Led.ite (fun _ => openFollowTail_led env h base _ _) fun _ => Led.throw
  | ok _ => exact openFollowTail_led env h base _ _

theorem reopen_led (env : Env) (fd : Fd) (flags : Nat) : Led ext [] (Procfs.reopen env fd flags) fun fd => [fd] :=
  Led.ite (fun _ => Led.throw) fun _ => (fstatat_led fd []).bind fun st =>
    Led.ite (fun _ => Led.throw) fun _ => Led.bind_ofExcept fun sub => openFollowH_led env env.proc _ sub _

theorem isMagiclinkFilesystem_led (fd : Fd) : Led ext [] (Procfs.isMagiclinkFilesystem fd) fun _ => [] :=
  (fstatfs_led fd).bind fun _ => Led.pure rfl

end LedgerLogic
