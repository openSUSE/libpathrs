import Pathrs.Proofs.KSim
import Pathrs.Proofs.Ancestors

/-!
# The kernel backend's partial lookup: probing ever shorter prefixes

On the specification, the loop over the ancestors (`kprobeL` over `ancSpec`) ends at the stopping position: the `j`
with `pfx j` resolvable and `pfx (j + 1)` not (`anc_probe`).  `run_probe` evaluates the model's loop to `kprobeL`;
`run_partialTarget` states what `mkdir_all` gets from either backend in that form.
-/

open K KRun World KSim KSpec SStack Ancestors

namespace KProbe

variable {w : World}

/-- the probing loop, on the specification -/
def kprobeL (w : World) (c : World.Cfg) : List (Bytes × Option Bytes) → Nat → Except Nat (Fd × Option Bytes × Nat)
  | [], e => .error e
  | (p, rem) :: rest, e =>
    match resolveInRoot w c p with
    | .ok h => .ok (h, rem, e)
    | .error e' => kprobeL w c rest e'

/-! ### the ancestors, resolved -/

theorem remainingParts_eq (r : Option Bytes) :
    Root.remainingParts r = (match r with | none => [] | some b => Path.rawComponents b).filter nd := rfl

/-- the remaining path of an ancestor, as `mkdir_all` reads it -/
theorem rem_parts (l : List Bytes) (hl : ∀ c ∈ l, Path.containsSlash c = false) :
    Root.remainingParts (if Path.joinSlash l = [] then none else some (Path.joinSlash l)) = l.filter nd := by
  rw [remainingParts_eq]
  by_cases h : Path.joinSlash l = []
  · rw [if_pos h]
    rcases Path.joinSlash_eq_nil l h with h0 | h0 <;> rw [h0] <;> rfl
  · rw [if_neg h]
    have hne : l ≠ [] := by intro h0; rw [h0] at h; exact h rfl
    show (Path.splitSlash (Path.joinSlash l)).filter nd = _
    rw [KPath.splitSlash_joinSlash l hl hne]

theorem resolve_slash (hw : w.WF) (c : World.Cfg) : resolveInRoot w c [Path.slash] = .ok w.root := by
  have : Path.rawComponents [Path.slash] = [[], []] := by decide
  rw [resolveInRoot_eq (by decide), this, k_dot hw.root_dir (Or.inl rfl), k_dot hw.root_dir (Or.inl rfl), k_nil]

/-- the ancestor cut after `k + 1` components resolves like those components -/
theorem anc_resolve (hw : w.WF) (c : World.Cfg) (comps : List Bytes) (hsl : ∀ x ∈ comps, Path.containsSlash x = false)
    (hne : comps ≠ []) (k : Nat) :
    resolveInRoot w c (if Path.joinSlash (comps.take (k + 1)) = [] then [Path.slash] else Path.joinSlash (comps.take (k + 1)))
      = pfx w c comps (k + 1) := by
  have htne : comps.take (k + 1) ≠ [] := by simpa using hne
  have htsl : ∀ x ∈ comps.take (k + 1), Path.containsSlash x = false :=
    fun x hx => hsl x (List.mem_of_mem_take hx)
  by_cases h : Path.joinSlash (comps.take (k + 1)) = []
  · rw [if_pos h, resolve_slash hw]
    rcases Path.joinSlash_eq_nil _ h with h0 | h0
    · exact absurd h0 htne
    · unfold pfx; rw [h0, k_dot hw.root_dir (Or.inl rfl), k_nil]
  · rw [if_neg h, resolveInRoot_eq h]
    show kresolve w c w.root (Path.splitSlash _) 0 = _
    rw [KPath.splitSlash_joinSlash _ htsl htne]
    rfl

/-- **Probing finds the stopping position**: started below a failing prefix `k` with that prefix's
error, the loop over the ancestors returns the object after the longest resolvable prefix `j`, the
remaining path after it, and the error of prefix `j + 1`. -/
theorem anc_probe (hw : w.WF) (c : World.Cfg) (hnf : c.nofollow = false) (comps : List Bytes)
    (hsl : ∀ x ∈ comps, Path.containsSlash x = false) (hne : comps ≠ []) (k : Nat) :
    1 ≤ k → ∀ j hd e, j < k → pfx w c comps j = .ok hd → pfx w c comps (j + 1) = .error e →
      ∃ rem, kprobeL w c (ancSpec comps k) e = .ok (hd, rem, e) ∧ Root.remainingParts rem = (comps.drop j).filter nd := by
  have hdsl : ∀ k, ∀ x ∈ comps.drop k, Path.containsSlash x = false := fun _ x hx => hsl x (List.mem_of_mem_drop hx)
  -- by the clauses of `ancSpec`: no component; one (the ancestor is `.`); more, and the ancestor cut after `k + 1`
  -- components is `.` or `/`, where the list ends; more, and the shorter ancestors follow.  The cut is the stopping
  -- position itself, or it fails with the same error and the loop goes on; `.` and `/` cannot fail
  fun_induction ancSpec comps k with
  | case1 => exact nofun
  | case2 =>
    intro _ j hd e hj h1 h2
    cases Nat.lt_one_iff.1 hj
    rw [pfx_zero] at h1; cases h1
    exact ⟨_, by simp only [kprobeL, resolveInRoot_dot hw.root_dir], rem_parts comps hsl⟩
  | case3 k dir tail anc rem hstop =>
    intro _ j hd e hj h1 h2
    have hres : resolveInRoot w c anc = pfx w c comps (k + 1) := anc_resolve hw c comps hsl hne k
    by_cases hjk : j = k + 1
    · subst hjk
      rw [h1] at hres
      exact ⟨rem, by simp only [kprobeL, hres], rem_parts _ (hdsl _)⟩
    · rw [pfx_fail_mono c hnf comps (j + 1) (k + 1) e h2 (Nat.lt_of_le_of_ne (Nat.le_of_lt_succ hj) hjk)] at hres
      rcases hstop with hs | hs
      · rw [hs, resolveInRoot_dot hw.root_dir] at hres; cases hres
      · rw [hs, resolve_slash hw] at hres; cases hres
  | case4 k dir tail anc rem hstop ih =>
    intro _ j hd e hj h1 h2
    have hres : resolveInRoot w c anc = pfx w c comps (k + 1) := anc_resolve hw c comps hsl hne k
    by_cases hjk : j = k + 1
    · subst hjk
      rw [h1] at hres
      exact ⟨rem, by simp only [kprobeL, hres], rem_parts _ (hdsl _)⟩
    · have hlt : j < k + 1 := Nat.lt_of_le_of_ne (Nat.le_of_lt_succ hj) hjk
      rw [pfx_fail_mono c hnf comps (j + 1) (k + 1) e h2 hlt] at hres
      obtain ⟨rem', hr1, hr2⟩ := ih (Nat.succ_pos k) j hd e hlt h1 h2
      exact ⟨rem', by simp only [kprobeL, hres]; exact hr1, hr2⟩

/-! ### running the probing loop -/

theorem ancSpec_nonul (comps : List Bytes) (hl : ∀ c ∈ comps, c.contains 0 = false) (k : Nat) :
    ∀ x ∈ ancSpec comps k, x.1.contains 0 = false := by
  have hanc : ∀ k, (if Path.joinSlash (comps.take k) = [] then [Path.slash] else Path.joinSlash (comps.take k)).contains 0
      = false := fun k => by
    split
    · rfl
    · exact Path.joinSlash_nonul _ (fun c hc => hl c (List.mem_of_mem_take hc))
  fun_induction ancSpec comps k with
  | case1 => intro x hx; cases hx
  | case2 => intro x hx; cases List.mem_singleton.1 hx; rfl
  | case3 k dir tail anc rem hstop => intro x hx; cases List.mem_singleton.1 hx; exact hanc _
  | case4 k dir tail anc rem hstop ih =>
    intro x hx
    rcases List.mem_cons.1 hx with rfl | hx
    · exact hanc _
    · exact ih x hx

theorem run_probe (hw : w.WF) (rflags : Nat) (L : List (Bytes × Option Bytes))
    (hnul : ∀ x ∈ L, x.1.contains 0 = false) (e : Nat) (he : e = ENOTDIR ∨ e = ENOENT ∨ e = ELOOP) :
    Prog.run w (Openat2.probe (kenv w) w.root rflags false L (.os e)) =
      match kprobeL w (kcfgK w rflags false) L e with
      | .ok (h, rem, e') => .ok (.part h (rem.getD []) (.os e'))
      | .error e' => .error (.os e') := by
  have hsv : ∀ e, e = ENOTDIR ∨ e = ENOENT ∨ e = ELOOP → ¬ Openat2.Err.isSafetyViolation (.os e) = true := by
    rintro _ (rfl | rfl | rfl) <;> decide
  -- by the clauses of `kprobeL`: no ancestor left; the ancestor resolves; it does not, and the loop goes on
  fun_induction kprobeL w (kcfgK w rflags false) L e with
  | case1 e => rfl
  | case2 p rem rest e h hres =>
    have hr := (run_openat2_resolve hw p (hnul (p, rem) List.mem_cons_self) rflags false).trans (congrArg toOut hres)
    rw [Openat2.probe, if_neg (hsv e he)]
    exact run_mbind_try_ok w hr _
  | case3 p rem rest e e' hres ih =>
    have hr := (run_openat2_resolve hw p (hnul (p, rem) List.mem_cons_self) rflags false).trans (congrArg toOut hres)
    rw [Openat2.probe, if_neg (hsv e he)]
    exact (run_mbind_try_err w hr rfl _).trans
      (ih (fun x hx => hnul x (List.mem_cons_of_mem _ hx)) (resolveInRoot_errors _ _ _ hres))

theorem pfx_full (c : World.Cfg) (comps : List Bytes) : pfx w c comps comps.length = kresolve w c w.root comps 0 := by
  unfold pfx; rw [List.take_length]

theorem remainingParts_some_nil : Root.remainingParts (some []) = Root.remainingParts none := by decide

theorem remainingParts_getD (rem : Option Bytes) : Root.remainingParts (some (rem.getD [])) = Root.remainingParts rem := by
  cases rem with
  | none => exact remainingParts_some_nil
  | some b => rfl

theorem remainingParts_joinSlash (l : List Bytes) (hl : ∀ c ∈ l, Path.containsSlash c = false) :
    Root.remainingParts (some (Path.joinSlash l)) = l.filter nd := by
  have h := rem_parts l hl
  by_cases h0 : Path.joinSlash l = []
  · rw [if_pos h0] at h; rw [h0, remainingParts_some_nil]; exact h
  · rw [if_neg h0] at h; exact h

/-- `openat2::resolve_partial` (kernel backend): the lookup itself, or the longest resolvable prefix
with the remaining path and the error of the next longer prefix -/
theorem run_openat2_resolvePartial (hw : w.WF) (path : Bytes) (hp : path ≠ []) (hnul : path.contains 0 = false)
    (rflags : Nat) :
    ∃ l, Prog.run w (Openat2.resolvePartial (kenv w) w.root path rflags false) = .ok l ∧
      lookupOut l = toOut (kresolve w (kcfgK w rflags false) w.root (Path.rawComponents path) 0) ∧
      ∀ h r e, l = .part h r e → ∃ j e', e = .os e' ∧
        pfx w (kcfgK w rflags false) (Path.rawComponents path) j = .ok h ∧
        pfx w (kcfgK w rflags false) (Path.rawComponents path) (j + 1) = .error e' ∧
        Root.remainingParts (some r) = ((Path.rawComponents path).drop j).filter nd := by
  have hr := run_openat2_resolve hw path hnul rflags false
  rw [resolveInRoot_eq hp] at hr
  have hsl : ∀ x ∈ Path.rawComponents path, Path.containsSlash x = false := rawComponents_single path
  have hne : Path.rawComponents path ≠ [] := KPath.splitSlash_ne_nil path
  unfold Openat2.resolvePartial
  cases hres : kresolve w (kcfgK w rflags false) w.root (Path.rawComponents path) 0 with
  | ok h =>
    rw [hres] at hr
    exact ⟨.complete h, run_mbind_try_ok w hr _, rfl, fun _ _ _ hh => by cases hh⟩
  | error e =>
    rw [hres] at hr
    have he := kresolve_errors _ _ _ _ _ hres
    have hnf : (kcfgK w rflags false).nofollow = false := rfl
    have hlen : 1 ≤ (Path.rawComponents path).length := List.length_pos_iff.mpr hne
    obtain ⟨j, hd, hj, h1, h2⟩ := exists_stop (kcfgK w rflags false) hnf (Path.rawComponents path)
      (Path.rawComponents path).length e (by rw [pfx_full]; exact hres)
    obtain ⟨rem, hp1, hp2⟩ := anc_probe hw (kcfgK w rflags false) hnf (Path.rawComponents path) hsl hne
      (Path.rawComponents path).length hlen j hd e hj h1 h2
    have hrp := run_probe hw rflags (ancSpec (Path.rawComponents path) (Path.rawComponents path).length)
      (ancSpec_nonul _ (Path.splitSlash_nonul path hnul) _) e he
    rw [hp1] at hrp
    refine ⟨.part hd (rem.getD []) (.os e), ?_, rfl, ?_⟩
    · exact (run_mbind_try_err w hr rfl _).trans (by rw [partialAncestors_eq]; exact hrp)
    · intro h r e0 hh
      cases hh
      exact ⟨j, e, rfl, h1, h2, by rw [remainingParts_getD]; exact hp2⟩

open KPartialRun in
/-- **`mkdir_all`'s partial lookup on a world**, whichever backend is active: the object the whole path resolves
to; or, if a component does not exist, the object after the longest resolvable prefix together with a
remaining path whose components to create are the rest of the path; or the specification's error. -/
theorem run_partialTarget (hw : w.WF) (r : Resolver) (path : Bytes) (hp : path ≠ []) (hnul : path.contains 0 = false)
    (c : World.Cfg) (hc : c = if r.emulated then ecfg r.rflags false else kcfgK w r.rflags false) :
    match kresolve w c w.root (Path.rawComponents path) 0 with
    | .ok h => Prog.run w (Root.partialTarget (kenv w) { fd := w.root, resolver := r } path) = .ok (h, none)
    | .error e =>
      if e = ENOENT then
        ∃ j h rem, Prog.run w (Root.partialTarget (kenv w) { fd := w.root, resolver := r } path) = .ok (h, rem) ∧
          pfx w c (Path.rawComponents path) j = .ok h ∧ pfx w c (Path.rawComponents path) (j + 1) = .error ENOENT ∧
          Root.remainingParts rem = ((Path.rawComponents path).drop j).filter nd
      else Prog.run w (Root.partialTarget (kenv w) { fd := w.root, resolver := r } path) = .error (.os e) := by
  have hsl : ∀ x ∈ Path.rawComponents path, Path.containsSlash x = false := rawComponents_single path
  -- both backends in one form: the result, and where an `ENOENT` lookup stopped
  obtain ⟨l, h1, h2, h3⟩ : ∃ l, Prog.run w (Resolver.resolvePartial (kenv w) r w.root path false) = .ok l ∧
      lookupOut l = toOut (kresolve w c w.root (Path.rawComponents path) 0) ∧
      ∀ h rm, l = .part h rm (.os ENOENT) → ∃ j, pfx w c (Path.rawComponents path) j = .ok h ∧
        pfx w c (Path.rawComponents path) (j + 1) = .error ENOENT ∧
        Root.remainingParts (some rm) = ((Path.rawComponents path).drop j).filter nd := by
    unfold Resolver.resolvePartial
    cases hemu : r.emulated with
    | true =>
      rw [hemu, if_pos rfl] at hc
      subst hc
      obtain ⟨l, e1, e2, e3⟩ := run_opath_resolvePartial hw path hp r.rflags
      refine ⟨l, by simpa using e1, e2, fun h rm hl => ?_⟩
      obtain ⟨j, s1, s2, s3⟩ := e3 h rm hl
      exact ⟨j, s1, s2, by rw [s3, remainingParts_joinSlash _ (fun c hc => hsl c (List.mem_of_mem_drop hc))]⟩
    | false =>
      rw [hemu, if_neg (by simp)] at hc
      subst hc
      obtain ⟨l, k1, k2, k3⟩ := run_openat2_resolvePartial hw path hp hnul r.rflags
      refine ⟨l, by simpa using k1, k2, fun h rm hl => ?_⟩
      obtain ⟨j, e', t0, t1, t2, t3⟩ := k3 h rm _ hl
      cases t0
      exact ⟨j, t1, t2, t3⟩
  unfold Root.partialTarget
  cases hres : kresolve w c w.root (Path.rawComponents path) 0 with
  | ok h =>
    rw [hres] at h2
    cases l with
    | part _ _ _ => cases h2
    | complete h' =>
      cases Except.ok.inj h2
      exact (run_mbind_ok w _ _ _ h1).trans rfl
  | error e =>
    rw [hres] at h2
    cases l with
    | complete _ => cases h2
    | part h rm e' =>
      cases Except.error.inj h2
      by_cases hen : e = ENOENT
      · subst hen
        obtain ⟨j, g1, g2, g3⟩ := h3 h rm rfl
        exact (if_pos rfl).mpr
          ⟨j, h, some rm, (run_mbind_ok w _ _ _ h1).trans (congrArg (Prog.run w) (if_pos rfl)), g1, g2, g3⟩
      · exact (if_neg hen).mpr <| (run_mbind_ok w _ _ _ h1).trans <|
          (congrArg (Prog.run w) (if_neg fun h => hen (Err.os.inj h))).trans (run_mbind_lift w _ _)

end KProbe
