import Pathrs.Session
import Pathrs.Proofs.LedgerProofs

/-!
# The descriptors of a whole session (C11)

For every environment whose kernel hands out only numbers that are not open: after any sequence of library calls of
one process — each of which is balanced on its own (`C11_balance_*`) — the descriptors the process holds are exactly
the ones handed back to the caller by the successful calls plus **at most one** more: the process-global procfs
handle, created by the first call that needed it.  No call, first or later, leaves anything else behind.
-/

open Ledger LedgerLogic LedgerProofs Session

namespace SessionLedger

/-- a run of the session ended in a fatal model error somewhere (nothing is claimed about such runs) -/
def anyFatal : List (Except Err Fd) → Prop
  | [] => False
  | .error e :: rest => e.isFatal = true ∨ anyFatal rest
  | .ok _ :: rest => anyFatal rest

/-- steps that are balanced on their own (the shape of the `C11_balance_*` theorems): whatever else the caller holds
besides `ext` — and with the handle's descriptor among it — each call ends owning exactly the descriptor it returns -/
def StepOk (ext : List Fd) : Step → Prop
  | .plain k => ∀ ext' : List Fd, (∀ x ∈ ext, x ∈ ext') → BalancedFd ext' k
  | .proc k => ∀ (ext' : List Fd) (h : ProcH), (∀ x ∈ ext, x ∈ ext') → h.fd ∈ ext' → 0 ≤ h.fd → BalancedFd ext' (k h)

theorem globalHandle_some (env : Env) (h : ProcH) :
    globalHandle env (some h) = .ret (.ok h, some h) := rfl

/-! ## The cell

What a run tells of the cell a step or a session hands on: results, not descriptors, so they come from the call
pass with nothing relied on and nothing guaranteed. -/

theorem runStep_cell (env : Env) (hc : ProcH) (s : Step) :
    Sat AnyAnswer Top (runStep env (some hc) s) fun rc => rc.2 = some hc := by
  cases s with
  | plain k => exact (Sat.top k).bind fun _ _ => .ret rfl
  | proc k => exact (Sat.top (k hc)).bind fun _ _ => .ret rfl

/-- the cell, once filled, never changes -/
theorem session_cell (env : Env) (hc : ProcH) (steps : List Step) :
    Sat AnyAnswer Top (session env (some hc) steps) fun rs => rs.2 = some hc := by
  induction steps with
  | nil => exact .ret rfl
  | cons s rest ih => exact (runStep_cell env hc s).bind fun rc h => by rw [h]; exact ih.bind fun rs h => .ret h

/-- the first call that needs the handle: the creation, then — if it succeeded — the call with the cell filled -/
theorem runStep_proc_none (env : Env) (k : ProcH → M Fd) :
    runStep env none (.proc k) = Prog.bind (Procfs.new env) fun r => match r with
      | .ok h => Prog.bind (k h) fun r => .ret (r, some h)
      | .error e => .ret (.error e, none) :=
  (Prog.bind_assoc (Procfs.new env) _ _).trans (congrArg _ (funext fun r => by cases r <;> rfl))

theorem returned_single (r : Except Err Fd) : returned [r] = okOr (fun fd => [fd]) r := by
  cases r <;> rfl

theorem returned_cons (r : Except Err Fd) (rs : List (Except Err Fd)) :
    returned (r :: rs) = returned [r] ++ returned rs := by
  cases r <;> rfl

theorem anyFatal_cons (r : Except Err Fd) (rs : List (Except Err Fd)) :
    anyFatal (r :: rs) ↔ (Fatal r ∨ anyFatal rs) := by
  cases r with
  | ok fd => simp [anyFatal, Fatal]
  | error e => simp [anyFatal, Fatal]

theorem led_of_balancedFd {ext : List Fd} {p : M Fd} (hb : BalancedFd ext p) : Led ext [] p fun fd => [fd] := by
  intro o h l r _ hperm hr hf
  obtain rfl := hperm.eq_nil
  have := hb h l r hr hf
  cases r with
  | ok fd => exact Or.inr this
  | error e => exact this.imp id fun h => ⟨[], h, .refl _⟩

/-- the descriptor of the cell is not negative and is held: by the session or by the caller -/
def CellInv (ext own : List Fd) (cell : Option ProcH) : Prop :=
  ∀ h, cell = some h → 0 ≤ h.fd ∧ h.fd ∈ own ++ ext

/-- the descriptors a stretch of the session added to the cell -/
def created : Option ProcH → Option ProcH → List Fd
  | some _, _ => []
  | none, c => cellFds c

theorem created_self (c : Option ProcH) : created c c = [] := by
  cases c <;> rfl

/-- a balanced call in the middle of a session, by the frame rule; the cell `c` is handed on -/
theorem call_led {ext own : List Fd} {k : M Fd} (hk : BalancedFd (own ++ ext) k) (c : Option ProcH)
    {T : Except Err Fd × Option ProcH → List Fd} (hT : ∀ r, okOr (fun fd => [fd]) r ++ own = T (r, c)) :
    LedG ext own (Prog.bind k fun r => .ret (r, c)) (fun rc => Fatal rc.1) T :=
  LedG.bind (LedG.frame own (led_of_balancedFd hk)) (fun _ hr => .ret hr) fun r => LedG.ret (hT r)

theorem runStep_led (env : Env) {ext : List Fd} {s : Step} (hs : StepOk ext s) {cell0 : Option ProcH}
    {own : List Fd} (hi : CellInv ext own cell0) :
    LedG ext own (runStep env cell0 s) (fun rc => Fatal rc.1)
      fun rc => returned [rc.1] ++ created cell0 rc.2 ++ own := by
  have hext : ∀ own : List Fd, ∀ x ∈ ext, x ∈ own ++ ext := fun _ _ hx => List.mem_append_right _ hx
  cases s with
  | plain k =>
    exact call_led (hs _ (hext own)) cell0 fun r => by
      simp only [returned_single, created_self, List.append_nil]
  | proc k =>
    cases cell0 with
    | some hc =>
      obtain ⟨hc0, hcm⟩ := hi hc rfl
      exact call_led (hs _ hc (hext own) hcm hc0) (some hc) fun r => by
        simp only [returned_single, created, List.append_nil]
    | none =>
      rw [runStep_proc_none]
      refine LedG.bind (LedG.frame own (new_led env)) (fun r hr => ?_) fun r => ?_
      · cases r with
        | ok h => exact hr.elim
        | error e => exact .ret hr
      · cases r with
        | error e => exact LedG.ret rfl
        | ok h =>
          have hh : h.fd ∈ (h.fd :: own) ++ ext := List.mem_cons_self
          exact LedG.nonneg fun h0 => call_led (hs _ h (hext _) hh (h0 _ List.mem_cons_self)) (some h) fun r => by
            rw [returned_single]; simp [created, cellFds]

theorem created_trans {c0 c1 c : Option ProcH} (h01 : ∀ h, c0 = some h → c1 = some h)
    (h1 : ∀ h, c1 = some h → c = some h) : created c0 c = created c0 c1 ++ created c1 c := by
  cases c0 with
  | some h => rw [h01 h rfl]; rfl
  | none =>
    cases c1 with
    | none => rfl
    | some h => rw [h1 h rfl]; rfl

theorem session_led (env : Env) (ext : List Fd) (steps : List Step) (hs : ∀ s ∈ steps, StepOk ext s) :
    ∀ (cell0 : Option ProcH) (own : List Fd), CellInv ext own cell0 →
      LedG ext own (session env cell0 steps) (fun rs => anyFatal rs.1)
        fun rs => returned rs.1 ++ created cell0 rs.2 ++ own := by
  induction steps with
  | nil => intro cell0 own _; exact LedG.ret (by rw [created_self]; rfl)
  | cons s rest ih =>
    intro cell0 own hi
    refine LedG.bind_run (runStep_led env (hs s List.mem_cons_self) hi)
      (fun rc hrc => (Sat.top _).bind fun rs _ => .ret ((anyFatal_cons _ _).mpr (.inl hrc)))
      fun rc hrun => LedG.nonneg fun h0 => ?_
    have h01 : ∀ h, cell0 = some h → rc.2 = some h := fun h hc => Sat.of_run (runStep_cell env h s) (hc ▸ hrun)
    have hi' : CellInv ext (returned [rc.1] ++ created cell0 rc.2 ++ own) rc.2 := fun h hh => by
      cases cell0 with
      | some hc =>
        obtain ⟨hc0, hcm⟩ := hi hc rfl
        cases (h01 hc rfl).symm.trans hh
        exact ⟨hc0, (List.mem_append.mp hcm).elim (fun h => by simp [h]) fun h => by simp [h]⟩
      | none =>
        have : h.fd ∈ returned [rc.1] ++ created none rc.2 ++ own := by simp [created, cellFds, hh]
        exact ⟨h0 _ this, List.mem_append_left _ this⟩
    refine LedG.bind_run (ih (fun s hs' => hs s (List.mem_cons_of_mem _ hs')) rc.2 _ hi')
      (fun rs hrs => .ret ((anyFatal_cons _ _).mpr (.inr hrs))) fun rs hrun' => ?_
    have h12 : ∀ h, rc.2 = some h → rs.2 = some h := fun h hc => Sat.of_run (session_cell env h rest) (hc ▸ hrun')
    refine LedG.mono (LedG.ret rfl) ?_ (fun _ h => h) fun _ => .refl _
    rw [created_trans h01 h12, returned_cons rc.1 rs.1]
    simp only [List.perm_iff_count, List.count_append]
    intro a; omega

theorem session_balanced (env : Env) (ext : List Fd) (steps : List Step) (hs : ∀ s ∈ steps, StepOk ext s)
    (h0 : Hist) (l : Hist) (rs : List (Except Err Fd)) (cell : Option ProcH)
    (hr : Runs (session env none steps) h0 (h0 ++ l) (rs, cell)) (hf : Fresh ext [] l) :
    anyFatal rs ∨ ∃ o, ledger [] l = some o ∧ o.Perm (returned rs ++ cellFds cell) := by
  have := session_led env ext steps hs none [] (fun _ hh => by cases hh) [] h0 l _ Good.nil (.refl _) hr hf
  simpa only [created, List.append_nil] using this

/-! ## Non-vacuity

The hypothesis `StepOk` is satisfiable by real calls of the model: a plain `openat` wrapper call (`openat_led`) and
a re-open of a caller's descriptor through the global handle (`reopen_led`, with the handle taken from the cell);
so the theorem applies to every run of this two-call session started with an empty cell. -/

def exampleSteps (env : Env) : List Step :=
  [Step.plain (Sys.openat 3 b!"a" 0 0), Step.proc fun h => Procfs.reopen { env with proc := h } 3 0]

theorem exampleSteps_ok (env : Env) (ext : List Fd) : ∀ s ∈ exampleSteps env, StepOk ext s := by
  intro s hs
  simp only [exampleSteps, List.mem_cons, List.not_mem_nil, or_false] at hs
  rcases hs with rfl | rfl
  · intro ext' _
    exact balancedFd_of_led (openat_led 3 b!"a" 0 0)
  · intro ext' h _ _ _
    exact balancedFd_of_led (reopen_led { env with proc := h } 3 0)

example (env : Env) (ext : List Fd) (h0 l : Hist) (rs : List (Except Err Fd)) (cell : Option ProcH)
    (hr : Runs (session env none (exampleSteps env)) h0 (h0 ++ l) (rs, cell)) (hf : Fresh ext [] l) :
    anyFatal rs ∨ ∃ o, ledger [] l = some o ∧ o.Perm (returned rs ++ cellFds cell) :=
  session_balanced env ext (exampleSteps env) (exampleSteps_ok env ext) h0 l rs cell hr hf

end SessionLedger
