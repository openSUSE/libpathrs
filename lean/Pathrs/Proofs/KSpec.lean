import Pathrs.Kernel.World

/-!
# The specification of in-root resolution: equations and consequences

Facts about `World.kresolve` and `World.lookup` alone; no program is run here.  Also the vocabulary in which run
lemmas and property theorems compare a program with the specification: `KSim.toOut`, `lookupOut`, the configurations
`kcfg`, `ecfg`, `kcfgK`, and `KOpen.openSpec`.
-/

open K World

variable {w : World}

namespace KSim

def lookupOut : Lookup Fd → Except Err Fd
  | .complete h => .ok h
  | .part _ _ e => .error e

def toOut : Except Nat Fd → Except Err Fd
  | .ok c => .ok c
  | .error e => .error (.os e)

theorem toOut_ok {x : Except Nat Fd} {o : Fd} (h : toOut x = .ok o) : x = .ok o := by
  cases x with
  | error e => cases h
  | ok c => exact congrArg Except.ok (Except.ok.inj h)

def kcfg (cfg : Opath.WalkCfg) : World.Cfg :=
  { nofollow := cfg.nofollow, noSymlinks := hasAll cfg.rflags RESOLVE_NO_SYMLINKS,
    maxLinks := MAX_SYMLINK_TRAVERSALS }

/-! ### one-step unfoldings of the specification -/

theorem k_nil {c : World.Cfg} {cur : Fd} {links : Nat} : kresolve w c cur [] links = .ok cur := by
  rw [kresolve.eq_def]

theorem k_notdir {c : World.Cfg} {cur : Fd} {x : Bytes} {rest : List Bytes} {links : Nat}
    (h : w.kind cur ≠ .dir) : kresolve w c cur (x :: rest) links = .error ENOTDIR := by
  rw [kresolve.eq_def]; simp [h]

theorem k_dot {c : World.Cfg} {cur : Fd} {x : Bytes} {rest : List Bytes} {links : Nat}
    (h : w.kind cur = .dir) (hx : x = [] ∨ x = Path.dot) :
    kresolve w c cur (x :: rest) links = kresolve w c cur rest links := by
  rw [kresolve, if_neg (not_not_intro h), if_pos hx]

theorem k_dotdot {c : World.Cfg} {cur : Fd} {rest : List Bytes} {links : Nat} (h : w.kind cur = .dir) :
    kresolve w c cur (Path.dotdot :: rest) links
      = kresolve w c (if cur = w.root then w.root else w.parent cur) rest links := by
  rw [kresolve, if_neg (not_not_intro h), if_neg (by decide), if_pos rfl]

theorem k_name {c : World.Cfg} {cur : Fd} {x : Bytes} {rest : List Bytes} {links : Nat}
    (h : w.kind cur = .dir) (hx : ¬ (x = [] ∨ x = Path.dot)) (h3 : x ≠ Path.dotdot) :
    kresolve w c cur (x :: rest) links =
      match w.child cur x with
      | none => .error ENOENT
      | some nxt =>
        if w.kind nxt = .lnk then
          if rest = [] ∧ c.nofollow then .ok nxt
          else if c.noSymlinks then .error ELOOP
          else if links + 1 ≥ c.maxLinks then .error ELOOP
          else kresolve w c (if Path.isAbsolute (w.body nxt) then w.root else cur)
                (Path.rawComponents (w.body nxt) ++ rest) (links + 1)
        else kresolve w c nxt rest links := by
  rw [kresolve, if_neg (not_not_intro h), if_neg hx, if_neg h3]
  rfl

theorem isSymlink_modeOf (k : Kind) (u i : Nat) :
    ({ mode := modeOf k, uid := u, ino := i } : Sys.Stat).isSymlink = decide (k = .lnk) := by
  show decide (modeOf k &&& S_IFMT = S_IFLNK) = _
  cases k <;> decide

/-- the test the walk makes on what `fstatat` says of a tree object -/
theorem not_isSymlink_modeOf (k : Kind) (u i : Nat) :
    (!({ mode := modeOf k, uid := u, ino := i } : Sys.Stat).isSymlink) = true ↔ k ≠ .lnk := by
  rw [isSymlink_modeOf]; simp

theorem lookup_dir_dot {cur : Fd} (h : w.kind cur = .dir) : w.lookup cur Path.dot = .ok cur := by
  simp [World.lookup, h]

theorem lookup_notdir {cur : Fd} (n : Bytes) (h : w.kind cur ≠ .dir) : w.lookup cur n = .error ENOTDIR := by
  simp [World.lookup, h]

theorem lookup_dir_dotdot {cur : Fd} (h : w.kind cur = .dir) :
    w.lookup cur Path.dotdot = .ok (w.parent cur) := by
  have : Path.dotdot ≠ Path.dot := by decide
  simp [World.lookup, h, this]

theorem lookup_dir_name {cur : Fd} (n : Bytes) (h : w.kind cur = .dir) (h2 : n ≠ Path.dot)
    (h3 : n ≠ Path.dotdot) :
    w.lookup cur n = match w.child cur n with | some c => .ok c | none => .error ENOENT := by
  simp [World.lookup, h, h2, h3]
  rfl

theorem cur_root_iff (hw : w.WF) {cur : Fd} {e : List Bytes} (h : w.dpath cur = some e) :
    cur = w.root ↔ e = [] := by
  constructor
  · intro hc; rw [hc, hw.root_path] at h; cases h; rfl
  · intro he; rw [he] at h; exact hw.path_inj _ _ _ h hw.root_path

end KSim

open KSim

namespace KSpec

/-- the specification's configuration for libpathrs' emulated backend -/
def ecfg (rflags : Nat) (nofollow : Bool) : World.Cfg :=
  { nofollow, noSymlinks := hasAll rflags RESOLVE_NO_SYMLINKS, maxLinks := MAX_SYMLINK_TRAVERSALS }

/-- … and for the kernel's own resolution -/
def kcfgK (w : World) (rflags : Nat) (nofollow : Bool) : World.Cfg :=
  { nofollow, noSymlinks := hasAll rflags RESOLVE_NO_SYMLINKS, maxLinks := w.kernelLinks }

theorem kresolve_errors (c : World.Cfg) (cur : Fd) (rem : List Bytes) (links : Nat) (e : Nat)
    (h : kresolve w c cur rem links = .error e) : e = ENOTDIR ∨ e = ENOENT ∨ e = ELOOP := by
  -- the clauses of `kresolve`, in its order: 1 the path is done, 2 not a directory, 3 `.` or an empty component, 4 `..`,
  -- 5 no such entry, 6 a trailing link that is not followed, 7 a link under `noSymlinks`, 8 the budget is spent,
  -- 9 a link is followed, 10 any other entry
  fun_induction kresolve w c cur rem links with
  | case1 => cases h
  | case2 => cases h; exact Or.inl rfl
  | case3 _ _ _ _ _ _ ih => exact ih h
  | case4 _ _ _ _ _ ih => exact ih h
  | case5 => cases h; exact Or.inr (Or.inl rfl)
  | case6 => cases h
  | case7 => cases h; exact Or.inr (Or.inr rfl)
  | case8 => cases h; exact Or.inr (Or.inr rfl)
  | case9 _ _ _ _ _ _ _ _ _ _ _ _ _ ih => exact ih h
  | case10 _ _ _ _ _ _ _ _ _ _ ih => exact ih h

theorem resolveInRoot_eq {path : Bytes} (hp : path ≠ []) (c : World.Cfg) :
    resolveInRoot w c path = kresolve w c w.root (Path.rawComponents path) 0 :=
  if_neg hp

theorem resolveInRoot_errors (c : World.Cfg) (path : Bytes) (e : Nat)
    (h : resolveInRoot w c path = .error e) : e = ENOTDIR ∨ e = ENOENT ∨ e = ELOOP := by
  by_cases hp : path = []
  · subst hp; cases h; exact Or.inr (Or.inl rfl)
  · rw [resolveInRoot_eq hp] at h; exact kresolve_errors _ _ _ _ _ h

theorem resolveInRoot_dot (hk : w.kind w.root = .dir) (c : World.Cfg) : resolveInRoot w c Path.dot = .ok w.root := by
  rw [resolveInRoot_eq (by decide)]
  show kresolve w c w.root [Path.dot] 0 = _
  rw [k_dot hk (Or.inr rfl), k_nil]

/-- every object the specification can reach from a position inside the root has a path
below the root: in-root resolution never leaves the root's tree -/
theorem kresolve_inside (hw : w.WF) (c : World.Cfg) (cur : Fd) (rem : List Bytes) (links : Nat) (r : Fd)
    (hin : ∃ p, w.dpath cur = some p) (h : kresolve w c cur rem links = .ok r) :
    ∃ p, w.dpath r = some p := by
  fun_induction kresolve w c cur rem links with
  | case1 cur links => cases h; exact hin
  | case2 cur links x rest hk => cases h
  | case3 cur links x rest hk hx ih => exact ih hin h
  | case4 cur links rest hk hx ih =>
    simp only [dite_eq_ite] at ih
    apply ih _ h
    split
    · exact ⟨[], hw.root_path⟩
    · rename_i hne
      obtain ⟨p, hp⟩ := hin
      rcases List.eq_nil_or_concat p with h0 | ⟨q, n, hq⟩
      · exact absurd (hw.path_inj _ _ _ (h0 ▸ hp) hw.root_path) hne
      · rw [hq, List.concat_eq_append] at hp
        exact ⟨q, (hw.parent_path _ _ _ (by simpa using hk) hp).1⟩
  | case5 cur links x rest hk hx hdd hch => cases h
  | case6 cur links x rest hk hx hdd nxt hch hl htr =>
    cases h
    obtain ⟨p, hp⟩ := hin
    exact ⟨_, hw.child_path _ _ _ _ hch hp⟩
  | case7 cur links x rest hk hx hdd nxt hch hl htr hns => cases h
  | case8 cur links x rest hk hx hdd nxt hch hl htr hns hlim => cases h
  | case9 cur links x rest hk hx hdd nxt hch hl htr hns hlim ih =>
    simp only [dite_eq_ite] at ih
    apply ih _ h
    split
    · exact ⟨[], hw.root_path⟩
    · exact hin
  | case10 cur links x rest hk hx hdd nxt hch hl ih =>
    obtain ⟨p, hp⟩ := hin
    exact ih ⟨_, hw.child_path _ _ _ _ hch hp⟩ h

theorem resolveInRoot_inside (hw : w.WF) (c : World.Cfg) (path : Bytes) (r : Fd)
    (h : resolveInRoot w c path = .ok r) : ∃ p, w.dpath r = some p := by
  by_cases hp : path = []
  · subst hp; cases h
  · rw [resolveInRoot_eq hp] at h; exact kresolve_inside hw _ _ _ _ _ ⟨[], hw.root_path⟩ h

/-- The link budget (the count so far and the bound) is consulted only where a link is about to be followed: never
with `RESOLVE_NO_SYMLINKS`; otherwise a larger bound changes nothing unless the smaller one was exhausted. -/
theorem kresolve_budget (c c' : World.Cfg) (hnf : c'.nofollow = c.nofollow) (hns : c'.noSymlinks = c.noSymlinks)
    (cur : Fd) (rem : List Bytes) (links links' : Nat)
    (h : c.noSymlinks = false →
      links' = links ∧ c.maxLinks ≤ c'.maxLinks ∧ kresolve w c cur rem links ≠ .error ELOOP) :
    kresolve w c' cur rem links' = kresolve w c cur rem links := by
  fun_induction kresolve w c cur rem links generalizing links' with
  | case1 cur links => rw [k_nil]
  | case2 cur links x rest hk => rw [k_notdir hk]
  | case3 cur links x rest hk hx ih => rw [k_dot (Decidable.of_not_not hk) hx]; exact ih _ h
  | case4 cur links rest hk hx ih =>
    simp only [dite_eq_ite] at ih
    rw [k_dotdot (Decidable.of_not_not hk)]; exact ih _ h
  | case5 cur links x rest hk hx hdd hch =>
    rw [k_name (Decidable.of_not_not hk) hx hdd, hch]
  | case6 cur links x rest hk hx hdd nxt hch hl htr =>
    rw [k_name (Decidable.of_not_not hk) hx hdd, hch]
    simp [hl, htr, hnf]
  | case7 cur links x rest hk hx hdd nxt hch hl htr hnsy =>
    rw [k_name (Decidable.of_not_not hk) hx hdd, hch]
    simp only [hl, ↓reduceIte, hnf, htr, hns, hnsy]
  | case8 cur links x rest hk hx hdd nxt hch hl htr hnsy hlim =>
    exact absurd rfl (h (by simpa using hnsy)).2.2
  | case9 cur links x rest hk hx hdd nxt hch hl htr hnsy hlim ih =>
    simp only [dite_eq_ite] at ih
    obtain ⟨hl', hle, _⟩ := h (by simpa using hnsy)
    subst hl'
    rw [k_name (Decidable.of_not_not hk) hx hdd, hch]
    have hlim' : ¬ links' + 1 ≥ c'.maxLinks := fun h' => hlim (Nat.le_trans hle h')
    simp only [hl, ↓reduceIte, hnf, htr, hns, hnsy, hlim']
    exact ih _ fun hn => ⟨rfl, hle, (h hn).2.2⟩
  | case10 cur links x rest hk hx hdd nxt hch hl ih =>
    rw [k_name (Decidable.of_not_not hk) hx hdd, hch]
    simp only [hl, ↓reduceIte]
    exact ih _ h

/-- a larger link budget changes nothing unless the smaller one was exhausted -/
theorem kresolve_limit_mono (c c' : World.Cfg) (hnf : c'.nofollow = c.nofollow) (hns : c'.noSymlinks = c.noSymlinks)
    (hle : c.maxLinks ≤ c'.maxLinks) (cur : Fd) (rem : List Bytes) (links : Nat)
    (h : kresolve w c cur rem links ≠ .error ELOOP) :
    kresolve w c' cur rem links = kresolve w c cur rem links :=
  kresolve_budget c c' hnf hns cur rem links links fun _ => ⟨rfl, hle, h⟩

/-- with `RESOLVE_NO_SYMLINKS` the link budget is never consulted -/
theorem kresolve_nosym (c c' : World.Cfg) (hnf : c'.nofollow = c.nofollow) (hns : c.noSymlinks = true)
    (hns' : c'.noSymlinks = true) (cur : Fd) (rem : List Bytes) (links links' : Nat) :
    kresolve w c' cur rem links' = kresolve w c cur rem links :=
  kresolve_budget c c' hnf (hns'.trans hns.symm) cur rem links links' fun h => nomatch hns.symm.trans h

/-- a symlink that names itself: resolution through it ends in `ELOOP`, whatever the budget
already spent (the specification is a total function: it always ends) -/
theorem kresolve_selfloop (hw : w.WF) (c : World.Cfg) (d l : Fd) (n : Bytes) (rest : List Bytes)
    (hch : w.child d n = some l) (hl : w.kind l = .lnk)
    (hbody : Path.rawComponents (w.body l) = [n]) (hrel : Path.isAbsolute (w.body l) = false)
    (htr : ¬ (rest = [] ∧ c.nofollow = true)) (links : Nat) :
    kresolve w c d (n :: rest) links = .error ELOOP := by
  have hk := hw.child_dir _ _ _ hch
  have hp := hw.names _ _ _ hch
  -- one round: unless the budget is spent, the link is followed back to where it stands
  have hstep : ∀ links, kresolve w c d (n :: rest) links =
      if c.noSymlinks then .error ELOOP else if links + 1 ≥ c.maxLinks then .error ELOOP
      else kresolve w c d (n :: rest) (links + 1) := fun links => by
    rw [k_name hk (fun h => h.elim hp.1 hp.2.2.1) hp.2.2.2.1, hch]
    simp only [hl, ↓reduceIte, htr, hbody, hrel, Bool.false_eq_true]
    rfl
  generalize hm : c.maxLinks - links = m
  induction m generalizing links with
  | zero => rw [hstep, if_pos (Nat.le_succ_of_le (Nat.le_of_sub_eq_zero hm)), ite_self]
  | succ m ih => rw [hstep, ih (links + 1) (congrArg Nat.pred hm), ite_self, ite_self]

end KSpec

namespace KOpen

/-- what a one-shot open returns, in terms of the specification -/
def openSpec (w : World) (c : World.Cfg) (path : Bytes) (flags : Nat) : Except Err Fd :=
  match resolveInRoot w c path with
  | .ok o =>
    match openKind (w.kind o) flags with
    | .ok () => .ok o
    | .error e => .error (.os e)
  | .error e => .error (.os e)

end KOpen
