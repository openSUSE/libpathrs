import Pathrs.Kernel.World
import Pathrs.Proofs.PathLemmas

/-!
# Path facts needed to run `check_current` on a `World`

Rust's `Path ==` compares `components()`.  For an absolute path these are `pieces`; `PathBuf::push` of a relative
path appends pieces; so the path `check_current` builds (`expectedFullPath`) and the path the kernel prints
(`World.render`) have the same components.
-/

namespace KPath

open Path

/-- the interesting pieces of a path: what `Path::components` keeps after the root -/
def keep (c : Bytes) : Option Comp :=
  if c = [] then none
  else if c = dot then none
  else if c = dotdot then some .parent
  else some (.normal c)

/-- a component the walk may push onto its expected path: non-empty, slash-free, not `.`/`..` -/
def GoodComp (n : Bytes) : Prop :=
  n ≠ [] ∧ containsSlash n = false ∧ n ≠ dot ∧ n ≠ dotdot

theorem _root_.World.ProperComp.good {n : Bytes} (h : World.ProperComp n) : GoodComp n :=
  ⟨h.1, h.2.1, h.2.2.1, h.2.2.2.1⟩

def pieces (p : Bytes) : List Comp := (splitSlash p).filterMap keep

theorem pieces_joinSlash (l : List Bytes) (hl : ∀ c ∈ l, containsSlash c = false) :
    pieces (joinSlash l) = l.filterMap keep := by
  cases l with
  | nil => simp [pieces, joinSlash, splitSlash, keep]
  | cons x rest => unfold pieces; rw [splitSlash_joinSlash _ hl (by simp)]

theorem keep_proper (n : Bytes) (h : GoodComp n) : keep n = some (.normal n) := by
  simp [keep, h.1, h.2.2.1, h.2.2.2]

theorem filterMap_keep_proper (l : List Bytes) (hl : ∀ c ∈ l, GoodComp c) :
    l.filterMap keep = l.map Comp.normal := by
  induction l with
  | nil => rfl
  | cons x rest ih =>
    simp [keep_proper x (hl x List.mem_cons_self),
      ih (fun c hc => hl c (List.mem_cons_of_mem _ hc))]

theorem components_abs (p : Bytes) (h : isAbsolute p = true) :
    components p = Comp.root :: pieces p := by
  -- the index matters to a leading `.` of a relative path only
  have hf : (fun x : Bytes × Nat =>
        if x.1 = [] then none else if x.1 = dot then (if (!true && x.2 = 0) = true then some Comp.cur else none)
        else if x.1 = dotdot then some .parent else some (.normal x.1)) = keep ∘ Prod.fst := by
    funext x
    simp [keep]
  unfold components pieces
  simp only [h, ↓reduceIte, List.singleton_append, hf]
  rw [← List.filterMap_map, List.zipIdx_map_fst]

theorem pieces_cons_slash (x : Bytes) : pieces (slash :: x) = pieces x := by
  unfold pieces
  rw [splitSlash_cons_slash]
  simp [keep]

theorem pieces_nil : pieces [] = [] := by simp [pieces, splitSlash, keep]

theorem pieces_dot : pieces dot = [] := by decide

theorem pieces_append_slash (a b : Bytes) : pieces (a ++ slash :: b) = pieces a ++ pieces b := by
  unfold pieces
  rw [splitSlash_append, List.filterMap_append]

theorem pieces_proper (n : Bytes) (h : GoodComp n) : pieces n = [.normal n] := by
  unfold pieces
  rw [splitSlash_single_piece n h.2.1]
  simp [keep_proper n h]

theorem proper_not_abs {n : Bytes} (h : GoodComp n) : isAbsolute n = false :=
  single_not_absolute n h.2.1

theorem pieces_push (a b : Bytes) (ha : a ≠ []) (hb : isAbsolute b = false) :
    pieces (push a b) = pieces a ++ pieces b := by
  unfold push
  simp only [hb, Bool.false_eq_true, ↓reduceIte, ha]
  split
  · rename_i hlast
    obtain ⟨a', rfl⟩ : ∃ a', a = a' ++ [slash] := by
      refine ⟨a.dropLast, ?_⟩
      have h1 := List.dropLast_concat_getLast ha
      rw [List.getLast?_eq_some_getLast ha] at hlast
      have hx : a.getLast ha = slash := by simpa using hlast
      rw [hx] at h1
      exact h1.symm
    rw [List.append_assoc]
    show pieces (a' ++ slash :: b) = pieces (a' ++ slash :: []) ++ pieces b
    rw [pieces_append_slash, pieces_append_slash, pieces_nil, List.append_nil]
  · exact pieces_append_slash a b

theorem push_ne_nil (a b : Bytes) (ha : a ≠ []) (hb : isAbsolute b = false) : push a b ≠ [] := by
  unfold push
  simp only [hb, Bool.false_eq_true, ↓reduceIte, ha]
  split <;> simp [ha]

theorem push_isAbsolute (a b : Bytes) (ha : a ≠ []) (hb : isAbsolute b = false) :
    isAbsolute (push a b) = isAbsolute a := by
  unfold push
  simp only [hb, Bool.false_eq_true, ↓reduceIte, ha]
  split <;> exact isAbsolute_append _ _ ha

theorem push_abs (a b : Bytes) (ha : isAbsolute a = true) (hb : isAbsolute b = false) :
    isAbsolute (push a b) = true := by
  rw [push_isAbsolute a b (by intro h; subst h; cases ha) hb, ha]

theorem pieces_foldl_push (l : List Bytes) (hl : ∀ c ∈ l, isAbsolute c = false) :
    ∀ acc : Bytes, acc ≠ [] →
      pieces (l.foldl push acc) = pieces acc ++ (l.map pieces).flatten ∧ l.foldl push acc ≠ [] ∧
      (isAbsolute (l.foldl push acc) = isAbsolute acc) := by
  induction l with
  | nil => intro acc h; simp [h]
  | cons x rest ih =>
    intro acc hacc
    have hx := hl x List.mem_cons_self
    have hne := push_ne_nil acc x hacc hx
    obtain ⟨h1, h2, h3⟩ := ih (fun c hc => hl c (List.mem_cons_of_mem _ hc)) (push acc x) hne
    refine ⟨?_, h2, ?_⟩
    · simp only [List.foldl_cons, h1, pieces_push acc x hacc hx, List.map_cons, List.flatten_cons,
        List.append_assoc]
    · rw [List.foldl_cons, h3, push_isAbsolute acc x hacc hx]

theorem flatten_pieces_proper (e : List Bytes) (he : ∀ c ∈ e, GoodComp c) :
    (e.map pieces).flatten = e.map Comp.normal := by
  induction e with
  | nil => rfl
  | cons x rest ih =>
    simp [pieces_proper x (he x List.mem_cons_self), ih (fun c hc => he c (List.mem_cons_of_mem _ hc))]

/-- the path `check_current` compares with, for any absolute root path: the root's components followed by
exactly the expected components -/
theorem components_expectedFullPath (rp : Bytes) (habs : isAbsolute rp = true) (e : List Bytes)
    (he : ∀ c ∈ e, GoodComp c) :
    components (expectedFullPath rp e) = components rp ++ e.map Comp.normal := by
  have hne : rp ≠ [] := by intro h; rw [h] at habs; cases habs
  let es : List Bytes := if e = [] then [[]] else e
  have hes_rel : ∀ c ∈ (([] : Bytes) :: es), isAbsolute c = false := by
    intro c hc
    rcases List.mem_cons.mp hc with rfl | h
    · rfl
    · simp only [es] at h
      split at h
      · simp at h; subst h; rfl
      · exact proper_not_abs (he c h)
  have hes_pieces : ((([] : Bytes) :: es).map pieces).flatten = e.map Comp.normal := by
    simp only [List.map_cons, List.flatten_cons, pieces_nil, List.nil_append, es]
    split
    · rename_i h; subst h; simp [pieces_nil]
    · exact flatten_pieces_proper e he
  obtain ⟨hrel_pieces, hrel_ne, hrel_abs⟩ :=
    pieces_foldl_push (([] : Bytes) :: es) hes_rel dot (by decide)
  have hrel_rel : isAbsolute ((([] : Bytes) :: es).foldl push dot) = false := by
    rw [hrel_abs]; decide
  unfold expectedFullPath
  rw [components_abs _ (push_abs _ _ habs hrel_rel), pieces_push _ _ hne hrel_rel, components_abs _ habs,
    hrel_pieces, pieces_dot, List.nil_append, hes_pieces, List.cons_append]

theorem components_render (w : World) (hw : w.WF) (e : List Bytes) (he : ∀ c ∈ e, GoodComp c) :
    components (w.render e) = Comp.root :: (w.rootComps ++ e).map Comp.normal := by
  have hRe : ∀ c ∈ w.rootComps ++ e, GoodComp c := fun c hc =>
    (List.mem_append.mp hc).elim (fun h => (hw.root_comps c h).good) (he c)
  rw [components_abs _ (by simp [World.render, isAbsolute])]
  unfold World.render
  rw [pieces_cons_slash, pieces_joinSlash _ (fun c hc => (hRe c hc).2.1), filterMap_keep_proper _ hRe]

/-- **the path `check_current` expects is the path the kernel prints** for an object whose
components below the root are `e` -/
theorem expected_eq_render (w : World) (hw : w.WF) (e : List Bytes) (he' : ∀ c ∈ e, World.ProperComp c) :
    pathEq (w.render e) (expectedFullPath (w.render []) e) = true := by
  have he : ∀ c ∈ e, GoodComp c := fun c hc => (he' c hc).good
  unfold pathEq
  rw [components_render w hw e he, components_expectedFullPath _ (by simp [World.render, isAbsolute]) e he,
    components_render w hw [] (fun _ h => nomatch h)]
  simp

theorem parseDigits_append (xs : Bytes) (d : UInt8) :
    World.parseDigits (xs ++ [d]) = World.parseDigits xs * 10 + (d.toNat - 48) := by
  simp [World.parseDigits, List.foldl_append]

theorem parse_natToDigits (fuel n : Nat) (h : n < 10 ^ fuel) :
    World.parseDigits (Path.natToDigits fuel n) = n := by
  have digit : ∀ d, d < 10 → (48 + d).toUInt8.toNat - 48 = d := by decide
  fun_induction Path.natToDigits fuel n with
  | case1 n => exact (Nat.lt_one_iff.1 h).symm
  | case2 fuel n hlt => exact (Nat.zero_add _).trans (digit n hlt)
  | case3 fuel n hge ih =>
    rw [parseDigits_append, ih (Nat.div_lt_of_lt_mul (by rwa [Nat.pow_succ, Nat.mul_comm] at h)),
      digit _ (Nat.mod_lt _ (by decide))]
    exact Nat.div_add_mod' n 10

theorem parse_decimal (n : Nat) : World.parseDigits (Path.decimal n) = n := by
  unfold Path.decimal
  apply parse_natToDigits
  calc n < 10 ^ n := Nat.lt_pow_self (by decide)
    _ ≤ 10 ^ (n + 1) := Nat.pow_le_pow_right (by decide) (by omega)

end KPath
