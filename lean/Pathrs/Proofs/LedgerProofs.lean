import Pathrs.Proofs.LedgerRoot

/-!
# Descriptor balance (C11): for every environment, a call leaves open exactly the descriptor it returns

`BalancedFd ext p`, `BalancedNone ext p` — for every run of `p` (every sequence of kernel answers in which the kernel
hands out only descriptor numbers that are not open: `Fresh`), the ledger of the run is defined (the program never
closes a descriptor it was not handed in that run — in particular none of the caller's `ext`) and what is left open
at the end is exactly the descriptor returned (`BalancedFd`), resp. nothing (`BalancedNone`), unless the run ended in
a fatal model error (`panic`, `badResp`, `outOfFuel`: answers of an impossible shape, or exhausted model fuel).
-/

open Ledger LedgerLogic

namespace LedgerProofs

def BalancedFd (ext : List Fd) (p : M Fd) : Prop :=
  ∀ h l r, Runs p h (h ++ l) r → Fresh ext [] l →
    match r with
    | .ok fd => ∃ o, ledger [] l = some o ∧ o.Perm [fd]
    | .error e => e.isFatal = true ∨ ledger [] l = some []

def BalancedNone {α : Type} (ext : List Fd) (p : M α) : Prop :=
  ∀ h l r, Runs p h (h ++ l) r → Fresh ext [] l →
    match r with
    | .ok _ => ledger [] l = some []
    | .error e => e.isFatal = true ∨ ledger [] l = some []

theorem balanced_of_led {α : Type} {ext : List Fd} {p : M α} {g : α → List Fd} (hp : Led ext [] p g)
    {h l : Hist} {r : Except Err α} (hr : Runs p h (h ++ l) r) (hf : Fresh ext [] l) :
    match r with
    | .ok a => ∃ o, ledger [] l = some o ∧ o.Perm (g a)
    | .error e => e.isFatal = true ∨ ledger [] l = some [] := by
  rcases hp [] h l r Good.nil (.refl _) hr hf with hfat | ⟨o, ho, hperm⟩
  · cases r with
    | ok a => exact hfat.elim
    | error e => exact Or.inl hfat
  · cases r with
    | ok a => exact ⟨o, ho, hperm⟩
    | error e => exact Or.inr (hperm.eq_nil ▸ ho)

theorem balancedFd_of_led {ext : List Fd} {p : M Fd} (h : Led ext [] p fun fd => [fd]) : BalancedFd ext p :=
  fun _ _ r hr hf => by cases r <;> exact balanced_of_led h hr hf

theorem balancedNone_of_led {α : Type} {ext : List Fd} {p : M α} (h : Led ext [] p fun _ => []) :
    BalancedNone ext p := fun _ _ r hr hf => by
  have := balanced_of_led h hr hf
  cases r with
  | ok a => obtain ⟨o, ho, hperm⟩ := this; exact hperm.eq_nil ▸ ho
  | error e => exact this

/-! ## Two operations that no `C11_balance_*` theorem speaks of -/

theorem resolvePartial_balanced (env : Env) (r : Resolver) (root : Fd) (path : Bytes) (nofollow : Bool)
    (ext : List Fd) : ∀ h l res, Runs (Resolver.resolvePartial env r root path nofollow) h (h ++ l) res →
      Fresh ext [] l →
      match res with
      | .ok lk => ∃ o, ledger [] l = some o ∧ o.Perm [hnd lk]
      | .error e => e.isFatal = true ∨ ledger [] l = some [] :=
  fun _ _ res hr hf => by
    cases res <;> exact balanced_of_led (resolver_resolvePartial_led env r root path nofollow) hr hf

theorem newUnmasked_balanced (env : Env) (ext : List Fd) :
    ∀ h l res, Runs (Procfs.newUnmasked env) h (h ++ l) res → Fresh ext [] l →
      match res with
      | .ok ph => ∃ o, ledger [] l = some o ∧ o.Perm [ph.fd]
      | .error e => e.isFatal = true ∨ ledger [] l = some [] :=
  fun _ _ res hr hf => by cases res <;> exact balanced_of_led (newUnmasked_led env) hr hf

/-- non-vacuity: a program that forgets the descriptor it was handed is not balanced -/
example : ¬ BalancedNone [] (M.bind' (Sys.dup 5) fun _ => (pure () : M Unit)) := by
  intro h
  have hr : Runs (M.bind' (Sys.dup 5) fun _ => (pure () : M Unit)) []
      ([] ++ [(Call.dup 5 3, Resp.fd 7)]) (.ok ()) :=
    Runs.call _ _ (.fd 7) _ _ _ (Runs.ret _ _)
  have := h [] _ _ hr (by simp [Fresh, produced, step])
  simp [ledger, step, produced] at this

end LedgerProofs
