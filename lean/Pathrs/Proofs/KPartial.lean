import Pathrs.Proofs.KSpec
import Pathrs.Proofs.StackLemmas

/-!
# Partial lookups at the level of the kernel specification

`kres2` is `kresolve` that also returns the number of links followed; it composes over `++`
(for following lookups), which is what relates the two partial lookups of libpathrs: the emulated
walk that remembers the outermost symlink in progress (symlink stack) and the kernel backend's
probing of ever shorter prefixes of the path.  `step_error`/`step_ok` are one step of the specification read off
`World.lookup`, the answer to the walk's `openat`.  `Claim` is what a position of the walk owes the specification;
`Tracks`/`Post` carry it through the stack operations (`pop_step`, `swap_step`, `enoent_step`: the only places where the
stack enters the simulation); `KProbe.pfx` is the lookup of a prefix, with where it stops (`exists_stop`, `stop_unique`).
-/

open K World KSim

variable {w : World}

namespace KPartial

/-- `kresolve` that also returns the number of links followed so far -/
def kres2 (w : World) (cfg : World.Cfg) (cur : Fd) (rem : List Bytes) (links : Nat) : Except Nat (Fd × Nat) :=
  match rem with
  | [] => .ok (cur, links)
  | c :: rest =>
    if w.kind cur ≠ .dir then .error ENOTDIR
    else if c = [] ∨ c = Path.dot then kres2 w cfg cur rest links
    else if c = Path.dotdot then
      kres2 w cfg (if cur = w.root then w.root else w.parent cur) rest links
    else match w.child cur c with
      | none => .error ENOENT
      | some nxt =>
        if w.kind nxt = .lnk then
          if rest = [] ∧ cfg.nofollow then .ok (nxt, links)
          else if cfg.noSymlinks then .error ELOOP
          else if links + 1 ≥ cfg.maxLinks then .error ELOOP
          else
            kres2 w cfg (if Path.isAbsolute (w.body nxt) then w.root else cur)
              (Path.rawComponents (w.body nxt) ++ rest) (links + 1)
        else kres2 w cfg nxt rest links
termination_by (cfg.maxLinks - links, rem.length)
decreasing_by
  all_goals simp_wf
  · right; omega
  · right; omega
  · left; omega
  · right; omega

def fstOut : Except Nat (Fd × Nat) → Except Nat Fd
  | .ok r => .ok r.1
  | .error e => .error e

theorem kresolve_eq_kres2 (cfg : World.Cfg) (cur : Fd) (rem : List Bytes) (links : Nat) :
    kresolve w cfg cur rem links = fstOut (kres2 w cfg cur rem links) := by
  fun_induction kresolve w cfg cur rem links with
  | case1 cur links => rw [kres2]; rfl
  | case2 cur links x rest hk => rw [kres2, if_pos hk]; rfl
  | case3 cur links x rest hk hx ih => rw [kres2, if_neg hk, if_pos hx]; exact ih
  | case4 cur links rest hk hx ih => rw [kres2, if_neg hk, if_neg hx, if_pos rfl]; exact ih
  | case5 cur links x rest hk hx hdd hch => rw [kres2, if_neg hk, if_neg hx, if_neg hdd, hch]; rfl
  | case6 cur links x rest hk hx hdd nxt hch hl htr =>
    rw [kres2, if_neg hk, if_neg hx, if_neg hdd, hch]; dsimp only; rw [if_pos hl, if_pos htr]; rfl
  | case7 cur links x rest hk hx hdd nxt hch hl htr hns =>
    rw [kres2, if_neg hk, if_neg hx, if_neg hdd, hch]; dsimp only; rw [if_pos hl, if_neg htr, if_pos hns]; rfl
  | case8 cur links x rest hk hx hdd nxt hch hl htr hns hlim =>
    rw [kres2, if_neg hk, if_neg hx, if_neg hdd, hch]; dsimp only
    rw [if_pos hl, if_neg htr, if_neg hns, if_pos hlim]; rfl
  | case9 cur links x rest hk hx hdd nxt hch hl htr hns hlim ih =>
    rw [kres2, if_neg hk, if_neg hx, if_neg hdd, hch]; dsimp only
    rw [if_pos hl, if_neg htr, if_neg hns, if_neg hlim]; exact ih
  | case10 cur links x rest hk hx hdd nxt hch hl ih =>
    rw [kres2, if_neg hk, if_neg hx, if_neg hdd, hch]; dsimp only; rw [if_neg hl]; exact ih

def andThen (r : Except Nat (Fd × Nat)) (f : Fd → Nat → Except Nat (Fd × Nat)) : Except Nat (Fd × Nat) :=
  match r with
  | .ok (m, l) => f m l
  | .error e => .error e

/-- following lookups compose over `++` -/
theorem kres2_append (cfg : World.Cfg) (hnf : cfg.nofollow = false) (cur : Fd) (a b : List Bytes) (links : Nat) :
    kres2 w cfg cur (a ++ b) links = andThen (kres2 w cfg cur a links) fun m l => kres2 w cfg m b l := by
  fun_induction kres2 w cfg cur a links with
  | case1 cur links => simp [andThen]
  | case2 cur links c rest hk => rw [List.cons_append, kres2]; simp [hk, andThen]
  | case3 cur links c rest hk hc ih => rw [List.cons_append, kres2]; simp [hk, hc]; exact ih
  | case4 cur links rest hk hc ih => rw [List.cons_append, kres2]; simp [hk, hc]; exact ih
  | case5 cur links c rest hk hc hdd hch => rw [List.cons_append, kres2]; simp [hk, hc, hdd, hch, andThen]
  | case6 cur links c rest hk hc hdd nxt hch hl hr => simp [hnf] at hr
  | case7 cur links c rest hk hc hdd nxt hch hl hr hns => rw [List.cons_append, kres2]; simp [hk, hc, hdd, hch, hl, hnf, hns, andThen]
  | case8 cur links c rest hk hc hdd nxt hch hl hr hns hlim => rw [List.cons_append, kres2]; simp [hk, hc, hdd, hch, hl, hnf, hns, hlim, andThen]
  | case9 cur links c rest hk hc hdd nxt hch hl hr hns hlim ih =>
    rw [List.cons_append, kres2]; simp [hk, hc, hdd, hch, hl, hnf, hns, hlim]
    rw [← List.append_assoc]; exact ih
  | case10 cur links c rest hk hc hdd nxt hch hl ih => rw [List.cons_append, kres2]; simp [hk, hc, hdd, hch, hl]; exact ih

open SStack

/-- what `resolve_partial` reports: the outermost symlink in progress, if any -/
def adjust (s : SStack) (h : Fd) (r : Bytes) : Fd × Bytes :=
  match s with
  | [] => (h, r)
  | e :: _ => (e.dir, e.remaining)

theorem adjust_of_bot {s : SStack} {d : Fd} {rm : Bytes} (h : botOf s = some (d, rm)) (h0 : Fd) (r0 : Bytes) :
    adjust s h0 r0 = (d, rm) := by
  cases s with
  | nil => simp [botOf] at h
  | cons e t => simp [botOf] at h; simp [adjust, h.1, h.2]

theorem adjust_bot_eq {s s' : SStack} (hs : s ≠ []) (hs' : s' ≠ []) (h : botOf s' = botOf s) (h0 : Fd) (r0 : Bytes) :
    adjust s' h0 r0 = adjust s h0 r0 := by
  cases s with
  | nil => exact absurd rfl hs
  | cons e t =>
    cases s' with
    | nil => exact absurd rfl hs'
    | cons e' t' => simp [botOf] at h; simp [adjust, h.1, h.2]

/-- The position a partial lookup reports when a component does not exist, in terms of the
specification: `pre` is the pending expansion of symlink bodies, `T` the remaining components of the
path as the caller wrote it.  Either the failure is inside the pending expansion and the stack's
bottom entry (the outermost link in progress) is still the one of the state, or the expansion
completed at `m` and the result is `(object after T.take j, T.drop j)` where component `j` is the
first of `T` that fails. -/
def Claim (w : World) (c : World.Cfg) (cur : Fd) (links : Nat) (stack : SStack) (pre T : List Bytes)
    (l : Lookup Fd) (s' : SStack) : Prop :=
  ∀ h r, l = .part h r (.os ENOENT) →
    (stack ≠ [] ∧ s' ≠ [] ∧ botOf s' = botOf stack ∧ kresolve w c cur pre links = .error ENOENT)
    ∨ (∃ m l' j x, kres2 w c cur pre links = .ok (m, l') ∧ j < T.length ∧
        kres2 w c m (T.take j) l' = .ok ((adjust s' h r).1, x) ∧
        (adjust s' h r).2 = Path.joinSlash (T.drop j) ∧
        kresolve w c m (T.take (j + 1)) l' = .error ENOENT)

theorem kres2_nil (c : World.Cfg) (cur : Fd) (links : Nat) : kres2 w c cur [] links = .ok (cur, links) := by
  rw [kres2]

theorem kresolve_of_kres2_eq (c : World.Cfg) {cur cur' : Fd} {a b : List Bytes} {l l' : Nat}
    (h : kres2 w c cur a l = kres2 w c cur' b l') : kresolve w c cur a l = kresolve w c cur' b l' := by
  rw [kresolve_eq_kres2, kresolve_eq_kres2, h]

/-- a step that is not a symlink, outside every expansion -/
theorem claim_nonlink_top (c : World.Cfg) (cur nxt : Fd) (links : Nat) (x : Bytes) (rest : List Bytes)
    (hstep : ∀ X, kres2 w c cur (x :: X) links = kres2 w c nxt X links) (l : Lookup Fd) (s' : SStack)
    (h : Claim w c nxt links [] [] rest l s') : Claim w c cur links [] [] (x :: rest) l s' := by
  intro hh r hl
  rcases h hh r hl with ⟨h0, _⟩ | ⟨m, l', j, y, h1, h2, h3, h4, h5⟩
  · exact absurd rfl h0
  · rw [kres2_nil] at h1
    cases h1
    right
    refine ⟨cur, links, j + 1, y, kres2_nil _ _ _, Nat.succ_lt_succ h2, ?_, ?_, ?_⟩
    · rw [List.take_succ_cons, hstep]; exact h3
    · rw [List.drop_succ_cons]; exact h4
    · rw [List.take_succ_cons, kresolve_of_kres2_eq c (hstep _)]; exact h5

/-- a step that is not a symlink, inside an expansion -/
theorem claim_nonlink_in (c : World.Cfg) (cur nxt : Fd) (links : Nat) (x : Bytes) (pre0 T : List Bytes)
    (hstep : ∀ X, kres2 w c cur (x :: X) links = kres2 w c nxt X links) (stack stack'' : SStack)
    (hb : stack'' = [] ∨ botOf stack'' = botOf stack) (hne : stack = [] → stack'' = [])
    (l : Lookup Fd) (s' : SStack)
    (h : Claim w c nxt links stack'' pre0 T l s') : Claim w c cur links stack (x :: pre0) T l s' := by
  intro hh r hl
  rcases h hh r hl with ⟨h0, h1, h2, h3⟩ | ⟨m, l', j, y, h1, h2, h3, h4, h5⟩
  · left
    refine ⟨fun hs => h0 (hne hs), h1, ?_, ?_⟩
    · rcases hb with hb | hb
      · exact absurd hb h0
      · rw [h2, hb]
    · rw [kresolve_of_kres2_eq c (hstep _)]; exact h3
  · right
    exact ⟨m, l', j, y, by rw [hstep]; exact h1, h2, h3, h4, h5⟩

/-- following a symlink outside every expansion: it becomes the outermost link in progress -/
theorem claim_link_top (c : World.Cfg) (hnf : c.nofollow = false) (cur cur' : Fd) (links : Nat) (x : Bytes)
    (B rest : List Bytes)
    (hstep : ∀ X, kres2 w c cur (x :: X) links = kres2 w c cur' (B ++ X) (links + 1)) (stack'' : SStack)
    (hb : botOf stack'' = some (cur, Path.joinSlash (x :: rest))) (l : Lookup Fd) (s' : SStack)
    (h : Claim w c cur' (links + 1) stack'' B rest l s') : Claim w c cur links [] [] (x :: rest) l s' := by
  intro hh r hl
  right
  rcases h hh r hl with ⟨_, h1, h2, h3⟩ | ⟨m, l', j, y, h1, h2, h3, h4, h5⟩
  · rw [hb] at h2
    have ha := adjust_of_bot h2 hh r
    refine ⟨cur, links, 0, links, kres2_nil _ _ _, by simp, ?_, ?_, ?_⟩
    · rw [ha]; exact kres2_nil _ _ _
    · rw [ha]; rfl
    · show kresolve w c cur [x] links = _
      rw [kresolve_of_kres2_eq c (hstep [])]; simpa using h3
  · refine ⟨cur, links, j + 1, y, kres2_nil _ _ _, Nat.succ_lt_succ h2, ?_, ?_, ?_⟩
    · rw [List.take_succ_cons, hstep, kres2_append c hnf, h1]; exact h3
    · rw [List.drop_succ_cons]; exact h4
    · rw [List.take_succ_cons, kresolve_eq_kres2, hstep, kres2_append c hnf, h1]
      show fstOut (kres2 w c m _ l') = _
      rw [← kresolve_eq_kres2]; exact h5

/-- following a symlink inside an expansion -/
theorem claim_link_in (c : World.Cfg) (cur cur' : Fd) (links : Nat) (x : Bytes) (B pre0 T : List Bytes)
    (hstep : ∀ X, kres2 w c cur (x :: X) links = kres2 w c cur' (B ++ X) (links + 1)) (stack stack'' : SStack)
    (hne : stack ≠ []) (hb : botOf stack'' = botOf stack) (l : Lookup Fd) (s' : SStack)
    (h : Claim w c cur' (links + 1) stack'' (B ++ pre0) T l s') : Claim w c cur links stack (x :: pre0) T l s' := by
  intro hh r hl
  rcases h hh r hl with ⟨_, h1, h2, h3⟩ | ⟨m, l', j, y, h1, h2, h3, h4, h5⟩
  · left
    exact ⟨hne, h1, by rw [h2, hb], by rw [kresolve_of_kres2_eq c (hstep _)]; exact h3⟩
  · right
    exact ⟨m, l', j, y, by rw [hstep]; exact h1, h2, h3, h4, h5⟩

/-- a result that is not "no such file" claims nothing -/
theorem claim_other {c : World.Cfg} {cur : Fd} {links : Nat} {stack : SStack} {pre T : List Bytes} {h0 : Fd}
    {r0 : Bytes} {e : Err} (he : e ≠ .os ENOENT) {s' : SStack} :
    Claim w c cur links stack pre T (.part h0 r0 e) s' := by
  intro hh r hl
  cases hl
  exact absurd rfl he

theorem claim_complete {c : World.Cfg} {cur : Fd} {links : Nat} {stack : SStack} {pre T : List Bytes} {h0 : Fd}
    {s' : SStack} : Claim w c cur links stack pre T (.complete h0) s' := by
  intro hh r hl
  cases hl

/-- the component itself does not exist -/
theorem claim_enoent_top (c : World.Cfg) (cur : Fd) (links : Nat) (x : Bytes) (rest : List Bytes)
    (hk : kresolve w c cur [x] links = .error ENOENT) :
    Claim w c cur links [] [] (x :: rest) (.part cur (Path.joinSlash (x :: rest)) (.os ENOENT)) [] := by
  intro hh r hl
  cases hl
  right
  exact ⟨cur, links, 0, links, kres2_nil _ _ _, by simp, kres2_nil _ _ _, rfl, hk⟩

theorem claim_enoent_in (c : World.Cfg) (cur : Fd) (links : Nat) (stack : SStack) (pre T : List Bytes)
    (hne : stack ≠ []) (h0 : Fd) (r0 : Bytes) (hk : kresolve w c cur pre links = .error ENOENT) :
    Claim w c cur links stack pre T (.part h0 r0 (.os ENOENT)) stack := by
  intro hh r hl
  left
  exact ⟨hne, hne, rfl, hk⟩

/-! ### equations of `kres2` -/

theorem _root_.KSimStack.k2_notdir (c : World.Cfg) (cur : Fd) (x : Bytes) (X : List Bytes) (l : Nat) (h : w.kind cur ≠ .dir) :
    kres2 w c cur (x :: X) l = .error ENOTDIR := by
  rw [kres2, if_pos h]

theorem k2_dot {c : World.Cfg} {cur : Fd} {x : Bytes} {l : Nat} (h : w.kind cur = .dir) (hx : x = [] ∨ x = Path.dot)
    (X : List Bytes) : kres2 w c cur (x :: X) l = kres2 w c cur X l := by
  rw [kres2, if_neg (not_not_intro h), if_pos hx]

theorem k2_dotdot {c : World.Cfg} {cur : Fd} {l : Nat} (h : w.kind cur = .dir) (X : List Bytes) :
    kres2 w c cur (Path.dotdot :: X) l = kres2 w c (if cur = w.root then w.root else w.parent cur) X l := by
  rw [kres2, if_neg (not_not_intro h), if_neg (by decide), if_pos rfl]

/-! ### one step of the specification, by what `openat` answers

The walk opens a component (`""` as `"."`) and then looks at what it found; the specification decides by the form
of the component first.  These two lemmas state the specification's step in the walk's order, so that the simulation
branches as the walk does.  `..` at the root, which the specification clamps and the walk never opens, is apart. -/

theorem step_error {cur : Fd} {x p : Bytes} (hp : p = if x = [] then Path.dot else x) {err : Nat}
    (h : w.lookup cur p = .error err) :
    (∀ c X l, kres2 w c cur (x :: X) l = .error err) ∧ (err = ENOENT → nd x = true) := by
  by_cases hk : w.kind cur = .dir
  · have hx : ¬ (x = [] ∨ x = Path.dot) := fun hx => by
      have hp' : p = Path.dot := by rcases hx with h | h <;> simp [hp, h]
      rw [hp', lookup_dir_dot hk] at h; cases h
    have hp' : p = x := by rw [hp]; exact if_neg fun h => hx (Or.inl h)
    subst hp'
    refine ⟨fun c X l => ?_, fun _ => nd_true hx⟩
    by_cases hdd : p = Path.dotdot
    · rw [hdd, lookup_dir_dotdot hk] at h; cases h
    · rw [lookup_dir_name p hk (fun h => hx (Or.inr h)) hdd] at h
      rw [kres2, if_neg (not_not_intro hk), if_neg hx, if_neg hdd]
      cases hch : w.child cur p with
      | none => rw [hch] at h; cases h; rfl
      | some c => rw [hch] at h; cases h
  · rw [lookup_notdir _ hk] at h
    cases h
    exact ⟨fun c X l => KSimStack.k2_notdir c cur x X l hk, fun h => by cases h⟩

/-- From a position inside the root: the object found has the path the walk expects of it; the specification goes on
from it unless it is a symlink; and a symlink is found under a proper name only (`.` and `..` lead to directories). -/
theorem step_ok (hw : w.WF) {cur nxt : Fd} {e : List Bytes} (hinv : w.dpath cur = some e) {x p : Bytes}
    (hnr : ¬ (x = Path.dotdot ∧ e = [])) (hp : p = if x = [] then Path.dot else x) (h : w.lookup cur p = .ok nxt) :
    w.dpath nxt = some (if p = Path.dot then e else if p = Path.dotdot then e.dropLast else e ++ [p]) ∧
    (∀ c X l, kres2 w c cur (x :: X) l =
      if w.kind nxt = .lnk then
        if X = [] ∧ c.nofollow then .ok (nxt, l)
        else if c.noSymlinks then .error ELOOP
        else if l + 1 ≥ c.maxLinks then .error ELOOP
        else kres2 w c (if Path.isAbsolute (w.body nxt) then w.root else cur) (Path.rawComponents (w.body nxt) ++ X) (l + 1)
      else kres2 w c nxt X l) ∧
    (w.kind nxt = .lnk → p = x ∧ nd x = true ∧ w.dpath nxt = some (e ++ [x])) := by
  have hk : w.kind cur = .dir := Decidable.by_contra fun hk => by rw [lookup_notdir _ hk] at h; cases h
  have dir_nl : ∀ {d}, w.kind d = .dir → ¬ w.kind d = .lnk := fun hd hl => by rw [hd] at hl; cases hl
  by_cases hx : x = [] ∨ x = Path.dot
  · have hp' : p = Path.dot := by rcases hx with h | h <;> simp [hp, h]
    subst hp'
    rw [lookup_dir_dot hk] at h
    cases h
    exact ⟨by rw [if_pos rfl]; exact hinv, fun c X l => by rw [if_neg (dir_nl hk)]; exact k2_dot hk hx X,
      fun hl => absurd hl (dir_nl hk)⟩
  · have hp' : p = x := by rw [hp]; exact if_neg fun h => hx (Or.inl h)
    subst hp'
    have hnd : p ≠ Path.dot := fun h => hx (Or.inr h)
    by_cases hdd : p = Path.dotdot
    · subst hdd
      have hen : e ≠ [] := fun h => hnr ⟨rfl, h⟩
      have hcr : cur ≠ w.root := fun h => hen ((cur_root_iff hw hinv).1 h)
      rw [lookup_dir_dotdot hk] at h
      cases h
      rw [← List.dropLast_concat_getLast hen] at hinv
      obtain ⟨hpp, hpk⟩ := hw.parent_path _ _ _ hk hinv
      exact ⟨by rw [if_neg (by decide), if_pos rfl]; exact hpp,
        fun c X l => by rw [if_neg (dir_nl hpk), k2_dotdot hk, if_neg hcr], fun hl => absurd hl (dir_nl hpk)⟩
    · rw [lookup_dir_name p hk hnd hdd] at h
      cases hch : w.child cur p with
      | none => rw [hch] at h; cases h
      | some c =>
        rw [hch] at h
        cases h
        have hnp := hw.child_path _ _ _ _ hch hinv
        refine ⟨by rw [if_neg hnd, if_neg hdd]; exact hnp, fun c X l => ?_, fun _ => ⟨rfl, nd_true hx, hnp⟩⟩
        rw [kres2, if_neg (not_not_intro hk), if_neg hx, if_neg hdd, hch]

/-! ### one step of the walk, with or without a symlink stack -/

/-- What is known of the stack of a walk that has `pre ++ T` to go (`pre` the pending expansion of symlink
bodies): `StackInv` if the walk keeps a stack, nothing otherwise. -/
def Tracks (cfg : Opath.WalkCfg) (s : SStack) (pre : List Bytes) : Prop :=
  cfg.useStack = true → StackInv s pre

/-- What a walk started at `cur` with stack `s` says of the stack `s'` it returns with result `l`: without a
stack it is `s`; with one, a following walk satisfies `Claim`. -/
def Post (w : World) (cfg : Opath.WalkCfg) (cur : Fd) (links : Nat) (s : SStack) (pre T : List Bytes)
    (l : Lookup Fd) (s' : SStack) : Prop :=
  (cfg.useStack = false → s' = s) ∧
    (cfg.useStack = true → cfg.nofollow = false → Claim w (kcfg cfg) cur links s pre T l s')

theorem Post.stack {cfg : Opath.WalkCfg} (hu : cfg.useStack = true) {cur : Fd} {links : Nat} {s : SStack}
    {pre T : List Bytes} {l : Lookup Fd} {s' : SStack}
    (h : cfg.nofollow = false → Claim w (kcfg cfg) cur links s pre T l s') : Post w cfg cur links s pre T l s' :=
  ⟨fun h' => (nomatch hu.symm.trans h'), fun _ => h⟩

theorem Post.of_claim {cfg : Opath.WalkCfg} {cur : Fd} {links : Nat} {s : SStack} {pre T : List Bytes}
    {l : Lookup Fd} (h : Claim w (kcfg cfg) cur links s pre T l s) : Post w cfg cur links s pre T l s :=
  ⟨fun _ => rfl, fun _ _ => h⟩

/-- decompose the remaining components: outside an expansion the head is a component of the caller's
path, inside it is the head of the pending expansion -/
theorem rem_cases {x : Bytes} {rest pre T : List Bytes} {s : SStack} (hrem : x :: rest = pre ++ T)
    (hsi : StackInv s pre) :
    (pre = [] ∧ s = [] ∧ T = x :: rest) ∨ (∃ pre0, pre = x :: pre0 ∧ rest = pre0 ++ T) := by
  cases pre with
  | nil => left; exact ⟨rfl, inv_nil_pre hsi, by simpa using hrem.symm⟩
  | cons y pre0 =>
    right
    simp only [List.cons_append, List.cons.injEq] at hrem
    exact ⟨pre0, by rw [hrem.1], hrem.2⟩

/-- a component that is not a symlink was walked (`""` as `"."`): the stack operation succeeds and what holds
of the rest of the walk holds of the whole -/
theorem pop_step (cfg : Opath.WalkCfg) (cur nxt : Fd) (links : Nat) {x : Bytes} {rest pre T : List Bytes} {s : SStack}
    (hstep : ∀ X, kres2 w (kcfg cfg) cur (x :: X) links = kres2 w (kcfg cfg) nxt X links)
    (hrem : x :: rest = pre ++ T) (hsi : Tracks cfg s pre) (p : Bytes) (hp : p = if x = [] then Path.dot else x) :
    ∃ s'', Opath.stackOp cfg s (·.popPart p) = .ok s'' ∧ ∃ pre' T', rest = pre' ++ T' ∧ Tracks cfg s'' pre' ∧
      ∀ l s', Post w cfg nxt links s'' pre' T' l s' → Post w cfg cur links s pre T l s' := by
  cases hu : cfg.useStack with
  | false =>
    exact ⟨s, by simp [Opath.stackOp, hu], [], rest, rfl, fun h => (nomatch hu.symm.trans h),
      fun l s' h => ⟨h.1, fun h' => (nomatch hu.symm.trans h')⟩⟩
  | true =>
    have hsi := hsi hu
    rcases rem_cases hrem hsi with ⟨hpre, hs0, hT⟩ | ⟨pre0, hpre, hrest⟩
    · subst hpre; subst hs0; subst hT
      refine ⟨[], by simp [Opath.stackOp, hu, popPart_empty], [], rest, rfl, fun _ => inv_nil, fun l s' h => ?_⟩
      exact Post.stack hu fun hnf => claim_nonlink_top _ cur nxt links x rest hstep l s' (h.2 hu hnf)
    · subst hpre
      obtain ⟨s'', h1, h2, h3, h4⟩ := popPart_in hsi
      refine ⟨s'', by simp [Opath.stackOp, hu, hp, h1], pre0, T, hrest, fun _ => h2, fun l s' h => ?_⟩
      exact Post.stack hu fun hnf => claim_nonlink_in _ cur nxt links x pre0 T hstep s s'' h3 h4 l s' (h.2 hu hnf)

/-- a symlink is being followed: the stack operation succeeds and what holds of the rest of the walk holds of
the whole -/
theorem swap_step (cfg : Opath.WalkCfg) (cur cur' : Fd) (links : Nat) {x : Bytes}
    {rest pre T : List Bytes} {s : SStack} (target : Bytes)
    (hstep : cfg.nofollow = false → ∀ X, kres2 w (kcfg cfg) cur (x :: X) links =
      kres2 w (kcfg cfg) cur' (Path.rawComponents target ++ X) (links + 1))
    (hrem : x :: rest = pre ++ T) (hsi : Tracks cfg s pre) (hx : nd x = true) :
    ∃ s'', Opath.stackOp cfg s (·.swapLink x cur (Path.joinSlash (x :: rest)) target) = .ok s'' ∧
      ∃ pre' T', Path.rawComponents target ++ rest = pre' ++ T' ∧ Tracks cfg s'' pre' ∧
      ∀ l s', Post w cfg cur' (links + 1) s'' pre' T' l s' → Post w cfg cur links s pre T l s' := by
  cases hu : cfg.useStack with
  | false =>
    exact ⟨s, by simp [Opath.stackOp, hu], [], _, rfl, fun h => (nomatch hu.symm.trans h),
      fun l s' h => ⟨h.1, fun h' => (nomatch hu.symm.trans h')⟩⟩
  | true =>
    have hsi := hsi hu
    rcases rem_cases hrem hsi with ⟨hpre, hs0, hT⟩ | ⟨pre0, hpre, hrest⟩
    · subst hpre; subst hs0; subst hT
      obtain ⟨s'', h1, h2, h3⟩ := swapLink_empty x hx cur (Path.joinSlash (x :: rest)) target
      rw [List.append_nil] at h2
      refine ⟨s'', by simp [Opath.stackOp, hu, h1], Path.rawComponents target, rest, rfl, fun _ => h2, fun l s' h => ?_⟩
      exact Post.stack hu fun hnf => claim_link_top _ hnf cur cur' links x _ rest (hstep hnf) s'' h3 l s' (h.2 hu hnf)
    · subst hpre
      obtain ⟨s'', h1, h2, h3, h4⟩ := swapLink_real hsi hx cur (Path.joinSlash (x :: rest)) target
      refine ⟨s'', by simp [Opath.stackOp, hu, h1], Path.rawComponents target ++ pre0, T,
        by rw [hrest, List.append_assoc], fun _ => h2, fun l s' h => ?_⟩
      exact Post.stack hu fun hnf =>
        claim_link_in _ cur cur' links x _ pre0 T (hstep hnf) s s'' (inv_top_ne hsi hx) h4 l s' (h.2 hu hnf)

/-- the component does not exist -/
theorem enoent_step (cfg : Opath.WalkCfg) (cur : Fd) (links : Nat) {x : Bytes} {rest pre T : List Bytes} {s : SStack}
    (hk : ∀ X, kresolve w (kcfg cfg) cur (x :: X) links = .error ENOENT)
    (hrem : x :: rest = pre ++ T) (hsi : Tracks cfg s pre) (hx : nd x = true) :
    Post w cfg cur links s pre T (.part cur (Path.joinSlash (x :: rest)) (.os ENOENT)) s := by
  refine ⟨fun _ => rfl, fun hu _ => ?_⟩
  rcases rem_cases hrem (hsi hu) with ⟨hpre, hs0, hT⟩ | ⟨pre0, hpre, _⟩
  · subst hpre; subst hs0; subst hT
    exact claim_enoent_top _ cur links x rest (hk [])
  · subst hpre
    exact claim_enoent_in _ cur links s _ T (inv_top_ne (hsi hu) hx) _ _ (hk pre0)

end KPartial

/-! ### prefixes of a path and where a lookup stops -/

namespace KProbe

open KPartial

/-- prefix `k` of the components, resolved from the root -/
def pfx (w : World) (c : World.Cfg) (comps : List Bytes) (k : Nat) : Except Nat Fd :=
  kresolve w c w.root (comps.take k) 0

theorem pfx_zero (c : World.Cfg) (comps : List Bytes) : pfx w c comps 0 = .ok w.root := by
  simp [pfx, k_nil]

theorem pfx_fail_mono (c : World.Cfg) (hnf : c.nofollow = false) (comps : List Bytes) (k k' : Nat) (e : Nat)
    (h : pfx w c comps k = .error e) (hk : k ≤ k') : pfx w c comps k' = .error e := by
  unfold pfx at *
  have hsplit : comps.take k' = comps.take k ++ (comps.take k').drop k := by
    have := List.take_append_drop k (comps.take k')
    rw [List.take_take, Nat.min_eq_left hk] at this
    exact this.symm
  rw [hsplit, kresolve_eq_kres2, kres2_append c hnf]
  rw [kresolve_eq_kres2] at h
  cases hr : kres2 w c w.root (comps.take k) 0 with
  | ok r => rw [hr] at h; cases h
  | error e' => rw [hr] at h; simp [fstOut] at h; subst h; rfl

theorem pfx_ok_mono (c : World.Cfg) (hnf : c.nofollow = false) (comps : List Bytes) (k k' : Nat) (h : Fd)
    (hok : pfx w c comps k' = .ok h) (hk : k ≤ k') : ∃ h', pfx w c comps k = .ok h' := by
  cases hr : pfx w c comps k with
  | ok h' => exact ⟨h', rfl⟩
  | error e => rw [pfx_fail_mono c hnf comps k k' e hr hk] at hok; cases hok

theorem exists_stop (c : World.Cfg) (hnf : c.nofollow = false) (comps : List Bytes) (k : Nat) (e : Nat)
    (h : pfx w c comps k = .error e) :
    ∃ j hd, j < k ∧ pfx w c comps j = .ok hd ∧ pfx w c comps (j + 1) = .error e := by
  induction k with
  | zero => rw [pfx_zero] at h; cases h
  | succ k ih =>
    cases hr : pfx w c comps k with
    | ok hd => exact ⟨k, hd, Nat.lt_succ_self k, hr, h⟩
    | error e' =>
      have := pfx_fail_mono c hnf comps k (k + 1) e' hr (Nat.le_succ k)
      rw [this] at h; cases h
      obtain ⟨j, hd, hj, h1, h2⟩ := ih hr
      exact ⟨j, hd, Nat.lt_succ_of_lt hj, h1, h2⟩

theorem stop_unique (c : World.Cfg) (hnf : c.nofollow = false) (comps : List Bytes) (j j' : Nat) (h h' : Fd) (e e' : Nat)
    (h1 : pfx w c comps j = .ok h) (h2 : pfx w c comps (j + 1) = .error e)
    (h1' : pfx w c comps j' = .ok h') (h2' : pfx w c comps (j' + 1) = .error e') : j = j' ∧ h = h' := by
  have a : j ≤ j' := by
    apply Nat.le_of_not_lt; intro hlt
    rw [pfx_fail_mono c hnf comps (j' + 1) j e' h2' hlt] at h1; cases h1
  have b : j' ≤ j := by
    apply Nat.le_of_not_lt; intro hlt
    rw [pfx_fail_mono c hnf comps (j + 1) j' e h2 hlt] at h1'; cases h1'
  cases Nat.le_antisymm a b
  rw [h1] at h1'; cases h1'
  exact ⟨rfl, rfl⟩

end KProbe
