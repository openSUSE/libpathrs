import Pathrs.Proofs.PathLemmas

/-!
# `joinSlash`, the `Ancestors` iterator and `path_split`

`Path.partialAncestors` (the model of `Ancestors` in `src/utils/path.rs`) works on byte offsets.
`ancSpec` describes the same list in terms of the raw components of the path; the probing of
the kernel backend's partial lookup is analysed on `ancSpec`.
-/

open Path

namespace Ancestors

/-- the ancestors of a path with raw components `comps`, starting with a haystack of `k` components -/
def ancSpec (comps : List Bytes) : Nat → List (Bytes × Option Bytes)
  | 0 => []
  | 1 => [(Path.dot, if joinSlash comps = [] then none else some (joinSlash comps))]
  | k + 2 =>
    let dir := joinSlash (comps.take (k + 1))
    let tail := joinSlash (comps.drop (k + 1))
    let anc := if dir = [] then [slash] else dir
    let rem := if tail = [] then none else some tail
    if anc = Path.dot ∨ anc = [slash] then [(anc, rem)] else (anc, rem) :: ancSpec comps (k + 1)

/-! ## `joinSlash`, `rposSlash` and one step of the iterator -/

theorem joinSlash_cons (x : Bytes) {l : List Bytes} (hl : l ≠ []) :
    joinSlash (x :: l) = x ++ slash :: joinSlash l := by
  cases l with
  | nil => exact absurd rfl hl
  | cons y ys => rfl

theorem joinSlash_cons_cons (c : UInt8) (y : Bytes) (ys : List Bytes) :
    joinSlash ((c :: y) :: ys) = c :: joinSlash (y :: ys) := by
  cases ys with
  | nil => rfl
  | cons z zs => rfl

theorem joinSlash_splitSlash (p : Bytes) : joinSlash (splitSlash p) = p := by
  fun_induction splitSlash p with
  | case1 => rfl
  | case2 rest ih => rw [joinSlash_cons _ (KPath.splitSlash_ne_nil rest), ih]; rfl
  | case3 c rest hc hnil => exact absurd hnil (KPath.splitSlash_ne_nil rest)
  | case4 c rest hc y ys hy ih => rw [joinSlash_cons_cons, ← hy, ih]

theorem joinSlash_append {a b : List Bytes} (ha : a ≠ []) (hb : b ≠ []) :
    joinSlash (a ++ b) = joinSlash a ++ slash :: joinSlash b := by
  fun_induction joinSlash a with
  | case1 => exact absurd rfl ha
  | case2 x => exact joinSlash_cons x hb
  | case3 x xs hne ih =>
    rw [List.cons_append, joinSlash_cons x fun h => hne (List.append_eq_nil_iff.1 h).1, ih hne, List.append_assoc]; rfl

theorem joinSlash_noslash (l : List Bytes) (hl : ∀ c ∈ l, containsSlash c = false)
    (h1 : l.length ≤ 1) : containsSlash (joinSlash l) = false := by
  match l, h1 with
  | [], _ => rfl
  | [x], _ => exact hl x List.mem_cons_self

theorem filter_zipIdx_noslash (b : Bytes) (hb : containsSlash b = false) (k : Nat) :
    (b.zipIdx k).filter (fun (c, _) => c = slash) = [] := by
  induction b generalizing k with
  | nil => rfl
  | cons c rest ih =>
    obtain ⟨hc, hr⟩ := containsSlash_cons.1 hb
    rw [List.zipIdx_cons, List.filter_cons]
    simp [hc, ih hr]

theorem rposSlash_noslash (b : Bytes) (hb : containsSlash b = false) : rposSlash b = none := by
  unfold rposSlash
  simp only [filter_zipIdx_noslash b hb 0]
  rfl

theorem rposSlash_append (a b : Bytes) (hb : containsSlash b = false) :
    rposSlash (a ++ slash :: b) = some a.length := by
  unfold rposSlash
  simp only [List.zipIdx_append, List.zipIdx_cons, List.filter_append, List.filter_cons,
    filter_zipIdx_noslash b hb]
  simp

/-- the haystack of the iterator state `limit` -/
def hayOf (inner : Bytes) : Option Nat → Bytes
  | none => inner
  | some idx => inner.take idx

theorem ancestorsAux_succ (inner : Bytes) (fuel : Nat) (limit : Option Nat) :
    ancestorsAux inner (fuel + 1) limit =
      match rposSlash (hayOf inner limit) with
      | none => [(dot, if inner.isEmpty then none else some inner)]
      | some idx =>
        let dir := inner.take idx
        let base := inner.drop idx
        let (anc, rem) : Bytes × Option Bytes :=
          if base = [slash] then (if dir = [] then ([slash], none) else (dir, none))
          else (if dir = [] then ([slash], some (base.drop 1)) else (dir, some (base.drop 1)))
        if anc = [] ∨ anc = dot ∨ anc = [slash] then [(anc, rem)]
        else (anc, rem) :: ancestorsAux inner fuel (some idx) := by
  cases limit <;> rfl

theorem ancestorsAux_none (inner : Bytes) (fuel : Nat) (limit : Option Nat)
    (h : rposSlash (hayOf inner limit) = none) :
    ancestorsAux inner (fuel + 1) limit = [(dot, if inner = [] then none else some inner)] := by
  rw [ancestorsAux_succ, h]
  cases inner <;> simp

theorem ancestorsAux_some (inner : Bytes) (fuel : Nat) (limit : Option Nat) (idx : Nat)
    (dir tail : Bytes)
    (h : rposSlash (hayOf inner limit) = some idx)
    (hdir : inner.take idx = dir) (htail : inner.drop idx = slash :: tail) :
    ancestorsAux inner (fuel + 1) limit =
      (let anc := if dir = [] then [slash] else dir
       let rem := if tail = [] then none else some tail
       if anc = dot ∨ anc = [slash] then [(anc, rem)]
       else (anc, rem) :: ancestorsAux inner fuel (some idx)) := by
  rw [ancestorsAux_succ, h]
  simp only [hdir, htail]
  by_cases hd : dir = [] <;> by_cases ht : tail = [] <;> simp [hd, ht, dot]

theorem rawComponents_length_le (p : Bytes) : (rawComponents p).length ≤ p.length + 1 := by
  unfold rawComponents
  fun_induction splitSlash p with
  | case1 => exact Nat.le_refl _
  | case2 rest ih => exact Nat.succ_le_succ ih
  | case3 c rest hc hnil => exact absurd hnil (KPath.splitSlash_ne_nil rest)
  | case4 c rest hc y ys hy ih => rw [hy] at ih; exact Nat.le_succ_of_le ih

/-! ## the iterator by component count -/

theorem ancestorsAux_eq (comps : List Bytes) (hl : ∀ c ∈ comps, containsSlash c = false) :
    ∀ (k fuel : Nat) (limit : Option Nat), 1 ≤ k → k ≤ comps.length → k ≤ fuel →
      hayOf (joinSlash comps) limit = joinSlash (comps.take k) →
      ancestorsAux (joinSlash comps) fuel limit = ancSpec comps k := by
  intro k
  induction k with
  | zero => exact fun _ _ h1 => absurd h1 (Nat.not_succ_le_zero 0)
  | succ k ih =>
    intro fuel limit _ hk hf hhay
    obtain ⟨fuel, rfl⟩ := Nat.exists_eq_add_one_of_ne_zero (Nat.ne_zero_of_lt hf)
    cases k with
    | zero =>
      have hns : containsSlash (joinSlash (comps.take 1)) = false :=
        joinSlash_noslash _ (fun c hc => hl c (List.mem_of_mem_take hc)) (List.length_take_le 1 comps)
      rw [ancestorsAux_none _ _ _ (by rw [hhay]; exact rposSlash_noslash _ hns)]
      rfl
    | succ k =>
      -- the haystack `take (k + 2)` ends in `/` and the slash-free `comps[k + 1]`: its last slash is at the length of
      -- the join of `take (k + 1)`, which is the limit the iterator goes on with
      have hlt : k + 1 < comps.length := hk
      have htake : comps.take (k + 1 + 1) = comps.take (k + 1) ++ [comps[k + 1]] :=
        (List.take_append_getElem hlt).symm
      have hne1 : comps.take (k + 1) ≠ [] := fun h =>
        (List.take_eq_nil_iff.1 h).elim (Nat.succ_ne_zero k) fun h0 => by rw [h0] at hlt; cases hlt
      have hne2 : comps.drop (k + 1) ≠ [] := fun h => Nat.not_le_of_lt hlt (List.drop_eq_nil_iff.1 h)
      have hhay' : joinSlash (comps.take (k + 1 + 1)) =
          joinSlash (comps.take (k + 1)) ++ slash :: comps[k + 1] := by
        rw [htake, joinSlash_append hne1 (by simp)]; rfl
      have hinner : joinSlash comps =
          joinSlash (comps.take (k + 1)) ++ slash :: joinSlash (comps.drop (k + 1)) := by
        rw [← joinSlash_append hne1 hne2, List.take_append_drop]
      have hrpos := rposSlash_append (joinSlash (comps.take (k + 1))) comps[k + 1]
        (hl _ (List.getElem_mem hlt))
      have hdir : (joinSlash comps).take (joinSlash (comps.take (k + 1))).length =
          joinSlash (comps.take (k + 1)) := by
        conv => lhs; rw [hinner]
        exact List.take_left' rfl
      have htail : (joinSlash comps).drop (joinSlash (comps.take (k + 1))).length =
          slash :: joinSlash (comps.drop (k + 1)) := by
        conv => lhs; rw [hinner]
        exact List.drop_left' rfl
      rw [ancestorsAux_some _ _ _ _ _ _ (by rw [hhay, hhay']; exact hrpos) hdir htail]
      rw [ih fuel (some _) (Nat.succ_pos k) (Nat.le_of_lt hlt) (Nat.le_of_succ_le_succ hf) hdir]
      rfl

theorem partialAncestors_eq (p : Bytes) :
    Path.partialAncestors p = ancSpec (Path.rawComponents p) (Path.rawComponents p).length := by
  have hne : rawComponents p ≠ [] := KPath.splitSlash_ne_nil p
  have hlen : 1 ≤ (rawComponents p).length := List.length_pos_iff.mpr hne
  have hjoin : joinSlash (rawComponents p) = p := joinSlash_splitSlash p
  have := ancestorsAux_eq (rawComponents p) (rawComponents_single p)
    (rawComponents p).length (p.length + 2) none hlen (Nat.le_refl _)
    (Nat.le_succ_of_le (rawComponents_length_le p)) (by rw [List.take_length]; rfl)
  rw [hjoin] at this
  exact this

end Ancestors

/-! ## NUL-free paths stay NUL-free -/

namespace Path

theorem joinSlash_eq_nil (l : List Bytes) (h : Path.joinSlash l = []) : l = [] ∨ l = [[]] := by
  cases l with
  | nil => left; rfl
  | cons x rest =>
    cases rest with
    | nil => right; simp [Path.joinSlash] at h; rw [h]
    | cons y ys =>
      rw [Ancestors.joinSlash_cons x (by simp)] at h
      simp at h

theorem splitSlash_nonul (p : Bytes) (h : p.contains 0 = false) : ∀ c ∈ Path.splitSlash p, c.contains 0 = false := by
  intro c hc
  simp only [List.contains_eq_mem, decide_eq_false_iff_not] at h ⊢
  exact fun hb => h (KPath.mem_splitSlash hc hb).1

theorem joinSlash_nonul (l : List Bytes) (hl : ∀ c ∈ l, c.contains 0 = false) : (Path.joinSlash l).contains 0 = false := by
  fun_induction joinSlash l with
  | case1 => rfl
  | case2 x => exact hl x List.mem_cons_self
  | case3 x xs hne ih =>
    exact contains_append_false _ (slash :: _) (hl x List.mem_cons_self)
      (contains_append_false [slash] _ (by decide) (ih fun c hc => hl c (List.mem_cons_of_mem _ hc)))

end Path

/-! ## `path_split` cuts at the last slash -/

namespace Path

/-- `path_split` cuts at the last slash: of `pre/name` with a slash-free `name`, for every `pre` -/
theorem pathSplit_append_slash (pre name : Bytes) (hns : containsSlash name = false) :
    pathSplit (pre ++ slash :: name) =
      .ok (if pre = [] then [slash] else pre, if name = [] then none else some name) := by
  have hanc : ∃ rest, partialAncestors (pre ++ slash :: name) =
      (if pre = [] then [slash] else pre, if name = [] then none else some name) :: rest := by
    unfold partialAncestors
    rw [Ancestors.ancestorsAux_some (pre ++ slash :: name) _ none pre.length pre name
      (Ancestors.rposSlash_append pre name hns) (List.take_left ..) (List.drop_left ..)]
    simp only []
    generalize (if pre = [] then [slash] else pre) = anc
    generalize (if name = [] then none else some name) = rem
    split
    · exact ⟨_, rfl⟩
    · exact ⟨_, rfl⟩
  obtain ⟨rest, hrest⟩ := hanc
  unfold pathSplit
  rw [hrest]
  by_cases hne : name = []
  · simp only [hne, ↓reduceIte]
  · simp only [hne, hns, ↓reduceIte, Bool.false_eq_true]

theorem pathSplit_noslash (p : Bytes) (hns : containsSlash p = false) :
    pathSplit p = .ok (dot, if p = [] then none else some p) := by
  have hanc : partialAncestors p = [(dot, if p = [] then none else some p)] := by
    unfold partialAncestors
    rw [Ancestors.ancestorsAux_none p _ none (Ancestors.rposSlash_noslash p hns)]
  unfold pathSplit
  rw [hanc]
  by_cases hne : p = []
  · simp only [hne, ↓reduceIte]
  · simp only [hne, hns, ↓reduceIte, Bool.false_eq_true]

theorem exists_last_slash (p : Bytes) (h : containsSlash p = true) :
    ∃ pre tl, p = pre ++ slash :: tl ∧ containsSlash tl = false := by
  induction p with
  | nil => cases h
  | cons c r ih =>
    cases hr : containsSlash r with
    | true =>
      obtain ⟨pre, tl, he, ht⟩ := ih hr
      exact ⟨c :: pre, tl, by rw [he]; rfl, ht⟩
    | false =>
      have hc : c = slash := Decidable.by_contra fun hc => by rw [containsSlash_cons.2 ⟨hc, hr⟩] at h; cases h
      exact ⟨[], r, by rw [hc]; rfl, hr⟩

theorem pathSplit_some_iff {p parent name : Bytes} :
    pathSplit p = .ok (parent, some name) ↔
      name ≠ [] ∧ containsSlash name = false ∧
        (p = name ∧ parent = dot ∨
          ∃ pre, p = pre ++ slash :: name ∧ parent = if pre = [] then [slash] else pre) := by
  constructor
  · intro h
    cases hp : containsSlash p with
    | false =>
      rw [pathSplit_noslash p hp] at h
      by_cases hne : p = []
      · rw [if_pos hne] at h; cases h
      · rw [if_neg hne] at h
        cases h
        exact ⟨hne, hp, Or.inl ⟨rfl, rfl⟩⟩
    | true =>
      obtain ⟨pre, tl, rfl, ht⟩ := exists_last_slash p hp
      rw [pathSplit_append_slash pre tl ht] at h
      by_cases hne : tl = []
      · rw [if_pos hne] at h; cases h
      · rw [if_neg hne] at h
        cases h
        exact ⟨hne, ht, Or.inr ⟨pre, rfl, rfl⟩⟩
  · rintro ⟨hne, hns, ⟨rfl, rfl⟩ | ⟨pre, rfl, rfl⟩⟩
    · rw [pathSplit_noslash _ hns, if_neg hne]
    · rw [pathSplit_append_slash pre name hns, if_neg hne]

end Path

theorem pathSplit_single {p dir name : Bytes} (h : Path.pathSplit p = .ok (dir, some name)) :
    single name :=
  (Path.pathSplit_some_iff.1 h).2.1

/-! ## the path `fd/<n>` -/

namespace KOpen

theorem strip_snoc (q : Bytes) (c : UInt8) (hc : c ≠ Path.slash) :
    Path.stripTrailingSlash (q ++ [c]) = (q ++ [c], false) := by
  unfold Path.stripTrailingSlash
  have : ((q ++ [c]).reverse.dropWhile (· = Path.slash)).reverse = q ++ [c] := by
    simp [hc]
  simp only [this]
  simp

theorem strip_fdpath (n : Nat) :
    Path.stripTrailingSlash (b!"fd/" ++ Path.decimal n) = (b!"fd/" ++ Path.decimal n, false) := by
  obtain ⟨q, c, h⟩ := decimal_snoc n
  have hc : c ≠ Path.slash := by
    intro he
    have := (decimal_mem n c (by rw [h]; simp)).1
    rw [he] at this
    exact absurd this (by decide)
  rw [h, ← List.append_assoc]
  exact strip_snoc _ _ hc

theorem raw_fdpath (n : Nat) : Path.rawComponents (b!"fd/" ++ Path.decimal n) = [b!"fd", Path.decimal n] := by
  have : b!"fd/" ++ Path.decimal n = b!"fd" ++ Path.slash :: Path.decimal n := rfl
  unfold Path.rawComponents
  rw [this, KPath.splitSlash_append_noslash _ _ (by decide), KPath.splitSlash_single_piece _ (decimal_noslash n)]

theorem pathSplit_fdpath (n : Nat) :
    Path.pathSplit (b!"fd/" ++ Path.decimal n) = .ok (b!"fd", some (Path.decimal n)) := by
  have h := Path.pathSplit_append_slash b!"fd" (Path.decimal n) (decimal_noslash n)
  rw [if_neg (by decide), if_neg (decimal_ne_nil n)] at h
  exact h

end KOpen
