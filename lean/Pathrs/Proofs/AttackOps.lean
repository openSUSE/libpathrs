import Pathrs.Proofs.Attack

/-!
# What the attacker theorems of `Props/C03_Attack.lean` and `Props/C02_Attack.lean` share

Same attacker as `Attack.lean`.  A `Root` on the emulated resolver (`eroot`); the emulated lookup as a sub-run of a
longer history (`resolve_sub_under_attack`); the forward pass over the re-open of `open_subpath` (`post_reopen`); and
successful runs under `runSeq` for the examples of those two files.  `World.mutAns` says how the kernel of a moment
answers a mutating call (arbitrary; its effect is whatever the later worlds look like), so the mutating operations can
succeed under `runSeq` (`ackWorld`).
-/

open K World KRun Attack

namespace AttackOps

/-- a `Root` on descriptor `root` that uses the emulated resolver -/
def eroot (root : Fd) (rflags : Nat) : Root := { fd := root, resolver := { emulated := true, rflags := rflags } }

theorem resolve_sub_under_attack {ws : Nat → World} {root : Fd} {rc : List Bytes} {m : Nat} (ha : Attacker ws root rc m)
    {path : Bytes} {rflags : Nat} {nofollow : Bool} {i0 : Nat} {H : Hist} (hans : AnsSeq ws i0 H)
    {h hm : Hist} {fd : Fd} (hr : Runs (Opath.resolve (aenv m) root path rflags nofollow) h hm (.ok fd))
    (hpre : hm <+: H) :
    ∃ i p, i0 ≤ i ∧ i < i0 + hm.length ∧ (ws i).dpath fd = some p :=
  (emulated_resolve_sub ha (hans.of_prefix hpre) hr).2

/-! ## `open_subpath`: the re-open through `thread-self/fd/<n>`

The re-open is not inverted call by call but passed over forward (`Post`, `Attack.lean`): `Procfs.reopen` of an even
non-negative descriptor `f` can only return `f` — in particular its readlink probe never reports "not a symlink"
(`EINVAL`/`ENOENT`), so the no-follow fallback, which would return the magic-link `f + 1` itself, is never taken. -/

section
variable {S : World → Prop}

/-- the library's one following open, on `thread-self/fd`: what it returns is `f` -/
theorem post_openatFollow_fdDir (f : Fd) (h0 : 0 ≤ f) (fl : Nat)
    (hnf : hasAll (fl ||| O_CLOEXEC ||| O_NOCTTY) O_NOFOLLOW = false) :
    Post S (Sys.openatFollow fdDir (Path.decimal f.toNat) fl 0) (Out (· = f) Top) :=
  post_wrapper (by decide) fun w _ => by
    have hnn : (f.toNat : Int) = f := Int.toNat_of_nonneg h0
    simp only [World.answer, ↓reduceIte, hnf, Bool.false_eq_true, KPath.parse_decimal, hnn]
    cases openKind (w.kind f) (fl ||| O_CLOEXEC ||| O_NOCTTY) with
    | ok u => exact SatE.pure rfl
    | error e => exact (Sys.failWith_satE Pass.top _ _).mono (Out.mono (fun _ h => h) fun _ _ => trivial)

theorem post_openFollowTail (m : Nat) (f : Fd) (h0 : 0 ≤ f) (fl : Nat)
    (hnf : hasAll (fl ||| O_CLOEXEC ||| O_NOCTTY) O_NOFOLLOW = false) :
    Post S (Procfs.openFollowTail (aenv m) (aenv m).proc .threadSelf (b!"fd/" ++ Path.decimal f.toNat) fl)
      (Out (· = f) Top) := by
  unfold Procfs.openFollowTail
  simp only [M.bind_def, M.liftM_except, KOpen.pathSplit_fdpath, M.ofExcept_ok, M.bind_ok]
  refine SatE.bind (post_openH m b!"fd" (by decide) (O_PATH ||| O_DIRECTORY) (.fd fdDir) (fun fd h => by cases h; decide)
    (by decide) answer_ts_fdDir) (fun _ _ => trivial) fun parent hp => ?_
  cases hp.1
  refine SatE.bind (Sat.onErr (post_fetchMntId fdDir (by decide) []) (Sat.top _)) (fun _ h => h.elim) fun pm _ => ?_
  refine SatE.bind (Sat.onErr (post_verifySameMnt pm fdDir (by decide) _) (Sat.top _)) (fun _ _ => trivial) fun _ _ => ?_
  exact SatE.try_then (post_openatFollow_fdDir f h0 fl hnf) (Sat.top _)

theorem post_openFollowH (hk : ∀ w, S w → w.kind threadSelf ≠ .lnk) (m : Nat) (f : Fd) (h0 : 0 ≤ f) (h2 : f % 2 = 0)
    (fl : Nat) (hnf : hasAll (fl ||| O_CLOEXEC ||| O_NOCTTY) O_NOFOLLOW = false) :
    Post S (Procfs.openFollowH (aenv m) (aenv m).proc .threadSelf (b!"fd/" ++ Path.decimal f.toNat) fl)
      (Out (· = f) Top) := by
  unfold Procfs.openFollowH
  simp only [KOpen.strip_fdpath, Bool.false_eq_true, ↓reduceIte]
  refine Sat.ite (fun _ => SatE.throw trivial) fun _ => ?_
  refine SatE.bind (SatE.try' (post_readlinkH hk m f h0)) (fun _ _ => trivial) fun r hr => ?_
  cases r with
  | ok b => exact post_openFollowTail m f h0 fl hnf
  | error e =>
    -- "not a symlink" is not among the errors of the probe, so the no-follow open is never chosen
    refine Sat.ite (fun hc => ?_) fun _ => Sat.ite (fun _ => post_openFollowTail m f h0 fl hnf) fun _ => SatE.throw trivial
    obtain rfl | rfl := hr.1 h2 <;> exact absurd hc (by decide)

/-- **`reopen` of an even descriptor, whatever the worlds of its moments look like**: the result, if any, is the
descriptor's object again -/
theorem post_reopen (hk : ∀ w, S w → w.kind threadSelf ≠ .lnk) (m : Nat) (f : Fd) (h0 : 0 ≤ f) (h2 : f % 2 = 0)
    (flags : Nat) : Post S (Procfs.reopen (aenv m) f flags) (Out (· = f) Top) := by
  unfold Procfs.reopen
  refine Sat.ite (fun _ => SatE.throw trivial) fun _ => ?_
  refine SatE.bind (V' := Top) (E' := Top) ((Sat.top _).mono fun x _ => Ok.top x) (fun _ _ => trivial) fun st _ => ?_
  refine Sat.ite (fun _ => SatE.throw trivial) fun _ => ?_
  simp only [M.liftM_except, KRun.procSubpath_nonneg f h0, M.ofExcept_ok]
  exact post_openFollowH hk m f h0 h2 _ (KOpen.reFlags_nofollow flags)

end

/-- non-vacuity of `resolve_sub_under_attack`: the run `ex_run` of `Attack.lean` as a `Runs` (`runSeq_runs`), taken as
the sub-run that is the whole history -/
example : ∃ H : Hist, ∃ i p, 0 ≤ i ∧ i < 0 + H.length ∧ exWorld.dpath 6 = some p := by
  obtain ⟨H, hruns, _, hans⟩ := runSeq_ok ex_run
  exact ⟨H, resolve_sub_under_attack (attacker_const exWorld exWorld_wf (by decide)) hans hruns (List.prefix_refl _)⟩

theorem run_parent_dot {w : World} (hw : w.WF) :
    Prog.run w (Opath.resolve (aenv w.procMnt) w.root b!"." 0 false) = .ok w.root := by
  show Prog.run w (Opath.resolve (KRun.kenv w) w.root b!"." 0 false) = .ok w.root
  rw [KSpec.run_opath_resolve hw]
  exact congrArg KSim.toOut (KSpec.resolveInRoot_dot hw.root_dir _)

theorem split_a : Path.pathSplit b!"a" = .ok (b!".", some b!"a") := rfl
theorem split_b : Path.pathSplit b!"b" = .ok (b!".", some b!"b") := rfl

theorem ex_open : Prog.run exWorld (Root.createFileOpen exWorld.root b!"a" 0 0) = .ok 6 := by
  unfold Root.createFileOpen
  rw [if_neg (by decide), run_openat exWorld.root (by unfold isTree; decide)]
  rfl

/-- `create_file("a")` on an existing `a` (for `C03_create_file_under_attack`) -/
theorem ex_createFile :
    (runSeq (fun _ => exWorld) 0 (Root.createFile (aenv exWorld.procMnt) (eroot exWorld.root 0) b!"a" 0 0)).1 = .ok 6 := by
  refine (runSeq_const exWorld _ 0).trans ?_
  unfold Root.createFile Root.resolveParent
  simp only [split_a, Resolver.resolve, eroot, ↓reduceIte, M.bind_def, run_mbind, run_do_liftE, run_parent_dot exWorld_wf, run_do_pure,
    run_try, ex_open, run_do_liftP, run_ofExcept]

/-- a world sequence on which a mutating call is acknowledged: `exWorld` at every moment, whose kernel answers every
mutating call with success -/
def ackWorld : World := { exWorld with mutAns := fun _ => .unit }

/-- `WF` does not mention `mutAns` -/
theorem ackWorld_wf : ackWorld.WF := { exWorld_wf with }

theorem ack_unlink : Prog.run ackWorld (Sys.unlinkat ackWorld.root b!"a" 0) = .ok () := by rfl
theorem ack_mkdir : Prog.run ackWorld (Sys.mkdirat ackWorld.root b!"a" (Root.clearFmt 0o755)) = .ok () := by rfl
theorem ack_rename : Prog.run ackWorld (Sys.renameat2 ackWorld.root b!"a" ackWorld.root b!"b" 0) = .ok () := by rfl

/-- an operation with a mutating call succeeds under `runSeq` (for `C03_remove_under_attack`) -/
theorem ex_remove : (runSeq (fun _ => ackWorld) 0 (Root.removeInode (aenv ackWorld.procMnt) (eroot ackWorld.root 0) b!"a" false)).1 = .ok () := by
  refine (runSeq_const ackWorld _ 0).trans ?_
  unfold Root.removeInode Root.resolveParent
  simp only [split_a, Resolver.resolve, eroot, ↓reduceIte, M.bind_def, run_mbind, run_do_liftE, run_parent_dot ackWorld_wf, run_do_pure,
    run_try, ack_unlink, run_do_liftP, run_ofExcept, Bool.false_eq_true]

/-- `mkdir a` (for `C03_create_under_attack`) -/
theorem ex_create : (runSeq (fun _ => ackWorld) 0 (Root.create (aenv ackWorld.procMnt) (eroot ackWorld.root 0) b!"a" (.directory 0o755))).1 = .ok () := by
  refine (runSeq_const ackWorld _ 0).trans ?_
  unfold Root.create Root.resolveParent
  simp only [split_a, Resolver.resolve, eroot, ↓reduceIte, M.bind_def, run_mbind, run_do_liftE, run_parent_dot ackWorld_wf, run_do_pure,
    run_try, Root.createCall, ack_mkdir, run_do_liftP, run_ofExcept]

/-- `rename a b` (for `C03_rename_under_attack`) -/
theorem ex_rename : (runSeq (fun _ => ackWorld) 0 (Root.rename (aenv ackWorld.procMnt) (eroot ackWorld.root 0) b!"a" b!"b" 0)).1 = .ok () := by
  refine (runSeq_const ackWorld _ 0).trans ?_
  unfold Root.rename Root.resolveParent
  simp only [split_a, split_b, Resolver.resolve, eroot, ↓reduceIte, M.bind_def, run_mbind, run_do_liftE, run_parent_dot ackWorld_wf, run_do_pure,
    run_try, ack_rename, run_do_liftP, run_ofExcept, run_onErr]

/-- for `C02_readlink_under_attack`: object 6 of the example world is the symlink `a -> a` -/
theorem ex_readlink :
    (runSeq (fun _ => exWorld) 0 (Root.readlink (aenv exWorld.procMnt) (eroot exWorld.root 0) b!"a")).1 = .ok b!"a" := by
  refine (runSeq_const exWorld _ 0).trans ?_
  have hres : Prog.run exWorld (Opath.resolve (aenv exWorld.procMnt) exWorld.root b!"a" 0 true) = .ok 6 :=
    (runSeq_const exWorld _ 0).symm.trans ex_run
  have hrl : Prog.run exWorld (Sys.readlinkat 6 []) = .ok b!"a" :=
    run_readlinkat_lnk exWorld_wf 6 (by unfold isTree; decide) rfl
  unfold Root.readlink Root.resolve
  simp only [Resolver.resolve, eroot, ↓reduceIte, M.bind_def, run_mbind, hres, run_try, hrl, run_do_liftP,
    run_ofExcept]

/-- for `C02_open_subpath_under_attack`: `open_subpath(".", O_PATH|O_DIRECTORY)` goes through the re-open and returns
the root again -/
theorem ex_openSubpath :
    (runSeq (fun _ => exWorld) 0
      (Root.openSubpath (aenv exWorld.procMnt) (eroot exWorld.root 0) b!"." (O_PATH ||| O_DIRECTORY))).1 = .ok 4 := by
  refine (runSeq_const exWorld _ 0).trans ?_
  show Prog.run exWorld (Resolver.openOnce (kenv exWorld) { emulated := true, rflags := 0 } exWorld.root b!"." _) = _
  rw [KOpen.run_openOnce_emulated exWorld_wf _ _ _ (by decide)]
  have hr : resolveInRoot exWorld (KSpec.ecfg 0 (hasAll (O_PATH ||| O_DIRECTORY) O_NOFOLLOW)) b!"." = .ok 4 :=
    KSpec.resolveInRoot_dot exWorld_wf.root_dir _
  unfold KOpen.openSpec
  rw [hr]
  rfl

end AttackOps
