import Pathrs.Root
import Pathrs.Proofs.ByteEq

/-!
# Runs: the relational semantics of interaction trees

`Runs p h h' a`: there is a sequence of answers along which `p`, started with
history `h`, ends with history `h'` and result `a`.  A statement
`∀ h' a, Runs p h h' a → …` therefore quantifies over every environment.
Inversion through the combinators of `Prog` and `M`, the same for successful runs only, inversions of the
system-call wrappers the proofs need (the unit wrappers through one lemma, `hotfix_unit_ok_inv`), and the form `RunsT`
that records only the stretch a run appends.
-/

inductive Runs : Prog α → Hist → Hist → α → Prop where
  | ret (a : α) (h : Hist) : Runs (.ret a) h h a
  | call (c : Call) (k : Resp → Prog α) (r : Resp) (h h' : Hist) (a : α) :
      Runs (k r) (h ++ [(c, r)]) h' a → Runs (.call c k) h h' a

namespace Runs

theorem ret_inv {a b : α} {h h' : Hist} (hr : Runs (.ret a) h h' b) : h' = h ∧ b = a := by
  cases hr; exact ⟨rfl, rfl⟩

theorem call_inv {c : Call} {k : Resp → Prog α} {h h' : Hist} {a : α} (hr : Runs (.call c k) h h' a) :
    ∃ r, Runs (k r) (h ++ [(c, r)]) h' a := by
  cases hr with
  | call _ _ r _ _ _ hk => exact ⟨r, hk⟩

theorem isPrefix {p : Prog α} {h h' : Hist} {a : α} (hr : Runs p h h' a) : h <+: h' := by
  induction hr with
  | ret a h => exact List.prefix_refl _
  | call c k r h h' a _ ih => exact List.IsPrefix.trans (List.prefix_append _ _) ih

theorem bind_inv {p : Prog α} {f : α → Prog β} {h h' : Hist} {b : β}
    (hr : Runs (Prog.bind p f) h h' b) : ∃ hm a, Runs p h hm a ∧ Runs (f a) hm h' b := by
  induction p generalizing h with
  | ret a => exact ⟨h, a, .ret a h, hr⟩
  | call c k ih =>
    obtain ⟨r, hk⟩ := call_inv hr
    obtain ⟨hm, a, h1, h2⟩ := ih r hk
    exact ⟨hm, a, .call c k r h hm a h1, h2⟩

theorem bind_intro {p : Prog α} {f : α → Prog β} {h hm h' : Hist} {a : α} {b : β}
    (h1 : Runs p h hm a) (h2 : Runs (f a) hm h' b) : Runs (Prog.bind p f) h h' b := by
  induction h1 with
  | ret a h => exact h2
  | call c k r h hm a _ ih => exact .call c _ r h h' b (ih h2)

theorem map_inv {p : Prog α} {f : α → β} {h h' : Hist} {b : β}
    (hr : Runs (Prog.bind p fun a => .ret (f a)) h h' b) : ∃ a, Runs p h h' a ∧ b = f a := by
  obtain ⟨hm, a, h1, h2⟩ := bind_inv hr
  obtain ⟨rfl, rfl⟩ := ret_inv h2
  exact ⟨a, h1, rfl⟩

theorem of_trace (p : Prog α) (o : Oracle) (h : Hist) :
    Runs p h (p.trace o h).1 (p.trace o h).2 := by
  induction p generalizing h with
  | ret a => exact .ret a h
  | call c k ih => exact .call c k (o h c) h _ _ (ih _ _)

theorem ite_inv {c : Prop} [Decidable c] {p q : Prog α} {h h' : Hist} {a : α}
    (hr : Runs (if c then p else q) h h' a) : (c ∧ Runs p h h' a) ∨ (¬ c ∧ Runs q h h' a) := by
  by_cases hc : c
  · exact .inl ⟨hc, by rwa [if_pos hc] at hr⟩
  · exact .inr ⟨hc, by rwa [if_neg hc] at hr⟩

theorem dite_inv {c : Prop} [Decidable c] {p : c → Prog α} {q : ¬ c → Prog α} {h h' : Hist} {a : α}
    (hr : Runs (if hc : c then p hc else q hc) h h' a) : (∃ hc, Runs (p hc) h h' a) ∨ (∃ hc, Runs (q hc) h h' a) := by
  by_cases hc : c
  · exact .inl ⟨hc, by rwa [dif_pos hc] at hr⟩
  · exact .inr ⟨hc, by rwa [dif_neg hc] at hr⟩

theorem mbind_inv {p : M α} {f : α → M β} {h h' : Hist} {r : Except Err β}
    (hr : Runs (M.bind' p f) h h' r) :
    (∃ hm a, Runs p h hm (.ok a) ∧ Runs (f a) hm h' r) ∨ (∃ e, Runs p h h' (.error e) ∧ r = .error e) := by
  unfold M.bind' at hr
  obtain ⟨hm, x, h1, h2⟩ := bind_inv hr
  cases x with
  | ok a => exact Or.inl ⟨hm, a, h1, h2⟩
  | error e =>
    obtain ⟨rfl, rfl⟩ := ret_inv h2
    exact Or.inr ⟨e, h1, rfl⟩

theorem mbind_ok {p : M α} {f : α → M β} {h h' : Hist} {b : β}
    (hr : Runs (M.bind' p f) h h' (.ok b)) :
    ∃ hm a, Runs p h hm (.ok a) ∧ Runs (f a) hm h' (.ok b) := by
  rcases mbind_inv hr with ⟨hm, a, h1, h2⟩ | ⟨e, _, he⟩
  · exact ⟨hm, a, h1, h2⟩
  · cases he

theorem lift_inv {p : Prog α} {h h' : Hist} {r : Except Err α} (hr : Runs (M.lift p) h h' r) :
    ∃ a, Runs p h h' a ∧ r = .ok a :=
  map_inv hr

theorem call_ok_inv {c : Call} {h h' : Hist} {r : Except Err Resp} (hr : Runs (M.call c) h h' r) :
    ∃ x, h' = h ++ [(c, x)] ∧ r = .ok x := by
  unfold M.call Prog.perform at hr
  obtain ⟨a, h1, rfl⟩ := lift_inv hr
  obtain ⟨x, hx⟩ := call_inv h1
  obtain ⟨hh, ha⟩ := ret_inv hx
  exact ⟨x, hh, by rw [ha]⟩

theorem ofExcept_inv {x : Except Err α} {h h' : Hist} {r : Except Err α}
    (hr : Runs (M.ofExcept x) h h' r) : h' = h ∧ r = x := by
  cases x with
  | ok a => exact ret_inv hr
  | error e => exact ret_inv hr

theorem onErr_ok {p : M α} {c : Prog Unit} {h h' : Hist} {a : α}
    (hr : Runs (M.onErr p c) h h' (.ok a)) : Runs p h h' (.ok a) := by
  unfold M.onErr at hr
  obtain ⟨hm, x, h1, h2⟩ := bind_inv hr
  cases x with
  | ok a' =>
    obtain ⟨rfl, he⟩ := ret_inv h2
    cases he
    exact h1
  | error e =>
    obtain ⟨_, _, _, h3⟩ := bind_inv h2
    obtain ⟨_, he⟩ := ret_inv h3
    cases he

theorem try_inv {p : M α} {h h' : Hist} {r : Except Err (Except Err α)}
    (hr : Runs (M.try' p) h h' r) :
    ∃ x, Runs p h h' x ∧
      ((∃ a, x = .ok a ∧ r = .ok (.ok a)) ∨
       (∃ e, x = .error e ∧ ((e.isFatal = true ∧ r = .error e) ∨ (e.isFatal = false ∧ r = .ok (.error e))))) := by
  unfold M.try' at hr
  obtain ⟨hm, x, h1, h2⟩ := bind_inv hr
  cases x with
  | ok a =>
    obtain ⟨rfl, rfl⟩ := ret_inv h2
    exact ⟨_, h1, Or.inl ⟨a, rfl, rfl⟩⟩
  | error e =>
    obtain ⟨hf, h2⟩ | ⟨hf, h2⟩ := ite_inv h2 <;> obtain ⟨rfl, rfl⟩ := ret_inv h2
    · exact ⟨_, h1, Or.inr ⟨e, rfl, Or.inl ⟨hf, rfl⟩⟩⟩
    · exact ⟨_, h1, Or.inr ⟨e, rfl, Or.inr ⟨Bool.of_not_eq_true hf, rfl⟩⟩⟩

/-! ## Successful runs

Most statements over all environments start from a run that ended in `.ok _`.  Through the combinators of `M`
such a run decomposes without case distinction: an error of a part is an error of the whole, so every part
succeeded. -/

theorem throw_ok {e : Err} {h h' : Hist} {a : α} (hr : Runs (throw e : M α) h h' (.ok a)) : False :=
  nomatch (ret_inv hr).2

theorem pure_ok {a b : α} {h h' : Hist} (hr : Runs (pure a : M α) h h' (.ok b)) : h' = h ∧ b = a :=
  ⟨(ret_inv hr).1, Except.ok.inj (ret_inv hr).2⟩

/-- `if c then throw e else p` (also `if c then throw e`, whose other branch is `pure ()`) -/
theorem unless_ok {c : Prop} [Decidable c] {e : Err} {p : M α} {h h' : Hist} {a : α}
    (hr : Runs (if c then throw e else p : M α) h h' (.ok a)) : ¬ c ∧ Runs p h h' (.ok a) := by
  by_cases hc : c
  · rw [if_pos hc] at hr; exact (throw_ok hr).elim
  · rw [if_neg hc] at hr; exact ⟨hc, hr⟩

theorem ofExcept_ok {x : Except Err α} {h h' : Hist} {a : α} (hr : Runs (M.ofExcept x) h h' (.ok a)) :
    h' = h ∧ x = .ok a :=
  ⟨(ofExcept_inv hr).1, (ofExcept_inv hr).2.symm⟩

theorem lift_ok {p : Prog α} {h h' : Hist} {a : α} (hr : Runs (M.lift p) h h' (.ok a)) : Runs p h h' a := by
  obtain ⟨b, h1, he⟩ := lift_inv hr
  cases he; exact h1

theorem call_ok {c : Call} {h h' : Hist} {x : Resp} (hr : Runs (M.call c) h h' (.ok x)) : h' = h ++ [(c, x)] := by
  obtain ⟨y, hh, he⟩ := call_ok_inv hr
  cases he; exact hh

theorem try_ok {p : M α} {h h' : Hist} {r : Except Err α} (hr : Runs (M.try' p) h h' (.ok r)) : Runs p h h' r := by
  obtain ⟨x, hx, ⟨a, rfl, he⟩ | ⟨e, rfl, ⟨_, he⟩ | ⟨_, he⟩⟩⟩ := try_inv hr <;> cases he <;> exact hx

theorem try_err {p : M α} {h h' : Hist} {e : Err} (hr : Runs (M.try' p) h h' (.error e)) :
    Runs p h h' (.error e) ∧ e.isFatal = true := by
  obtain ⟨x, hx, ⟨_, _, he⟩ | ⟨e', rfl, ⟨hf, he⟩ | ⟨_, he⟩⟩⟩ := try_inv hr <;> cases he
  exact ⟨hx, hf⟩

/-- `let r ← try' p; cleanup; ofExcept r`, the model's rendering of "run `p`, drop a handle, then `?`" -/
theorem try_then_ok {p : M α} {c : Prog Unit} {h h' : Hist} {a : α}
    (hr : Runs (M.bind' (M.try' p) fun r => M.bind' (M.lift c) fun _ => M.ofExcept r) h h' (.ok a)) :
    ∃ hm, Runs p h hm (.ok a) ∧ Runs c hm h' () := by
  obtain ⟨hm, r, h1, hr⟩ := mbind_ok hr
  obtain ⟨hm2, _, h2, hr⟩ := mbind_ok hr
  obtain ⟨rfl, rfl⟩ := ofExcept_ok hr
  exact ⟨hm, try_ok h1, lift_ok h2⟩

end Runs

/-! ## The wrappers of `SysWrap.lean`

Every wrapper is: the descriptor test, one call, a dispatch on the answer in which an `err` answer builds an error
value (`failWith`) and an answer of the wrong shape is `badResp`.  So a wrapper that returns `.ok _` made its one
call and got the success answer: the history grew by exactly that entry. -/

open K Runs

/-- building an error value always completes with the error it was built for, whatever the
diagnostic reads are answered (they build no error value themselves: repair of finding F26) -/
theorem failWith_inv {α : Type} (fds : List Fd) (e : Nat) (h h' : Hist) (x : Except Err α)
    (hr : Runs (Sys.failWith (α := α) fds e) h h' x) :
    x = .error (.os e) := by
  unfold Sys.failWith at hr
  induction fds generalizing h with
  | nil => exact (ret_inv hr).2
  | cons fd rest ih =>
    obtain ⟨_, _, _, h2⟩ := bind_inv hr
    exact ih _ h2

theorem failWith_not_ok {α : Type} (fds : List Fd) (e : Nat) {h h' : Hist} {a : α}
    (hr : Runs (Sys.failWith fds e : M α) h h' (.ok a)) : False :=
  nomatch failWith_inv _ _ _ _ _ hr

theorem wrapper_inv {d : Fd} {c : Call} {k : Resp → M α} {h h' : Hist} {x : Except Err α}
    (hr : Runs (M.bind' (M.ofExcept (Sys.hotfix d)) fun _ => M.bind' (M.call c) k) h h' x) :
    (¬ (d = AT_FDCWD ∨ d ≥ 0) ∧ h' = h ∧ x = .error (.os EBADF)) ∨ ∃ r, Runs (k r) (h ++ [(c, r)]) h' x := by
  obtain ⟨_, _, h1, hk⟩ | ⟨e, h1, rfl⟩ := mbind_inv hr
  · obtain ⟨rfl, _⟩ := ofExcept_inv h1
    obtain ⟨_, r, h2, hk⟩ | ⟨_, h2, _⟩ := mbind_inv hk
    · exact .inr ⟨r, call_ok h2 ▸ hk⟩
    · cases (call_ok_inv h2).choose_spec.2
  · left
    obtain ⟨rfl, he⟩ := ofExcept_inv h1
    unfold Sys.hotfix at he
    split at he <;> cases he
    exact ⟨‹_›, rfl, rfl⟩

theorem hotfix_ok {d : Fd} {k : M α} {h h' : Hist} {a : α}
    (hr : Runs (M.bind' (M.ofExcept (Sys.hotfix d)) fun _ => k) h h' (.ok a)) : Runs k h h' (.ok a) := by
  obtain ⟨_, _, h1, hk⟩ := mbind_ok hr
  obtain ⟨rfl, _⟩ := ofExcept_ok h1
  exact hk

theorem wrapper_ok {d : Fd} {c : Call} {k : Resp → M α} {h h' : Hist} {a : α}
    (hr : Runs (M.bind' (M.ofExcept (Sys.hotfix d)) fun _ => M.bind' (M.call c) k) h h' (.ok a)) :
    ∃ r, Runs (k r) (h ++ [(c, r)]) h' (.ok a) :=
  (wrapper_inv hr).resolve_left fun h => nomatch h.2.2

theorem fdDispatch_ok {site : String} {onErr : Nat → M Fd} {r : Resp} {h h' : Hist} {fd : Fd}
    (he : ∀ e, ¬ Runs (onErr e) h h' (.ok fd))
    (hr : Runs (match r with
      | .fd n => pure n
      | .err e => onErr e
      | _ => throw (.badResp site) : M Fd) h h' (.ok fd)) : h' = h ∧ r = .fd fd := by
  split at hr
  · obtain ⟨rfl, rfl⟩ := pure_ok hr; exact ⟨rfl, rfl⟩
  · exact (he _ hr).elim
  · exact (throw_ok hr).elim

theorem openatFollow_ok_inv {d : Fd} {n : Bytes} {fl m : Nat} {h h' : Hist} {fd : Fd}
    (hr : Runs (Sys.openatFollow d n fl m) h h' (.ok fd)) :
    h' = h ++ [(Call.openat d n (fl ||| O_CLOEXEC ||| O_NOCTTY) m, Resp.fd fd)] := by
  obtain ⟨r, hk⟩ := wrapper_ok hr
  obtain ⟨rfl, rfl⟩ := fdDispatch_ok (fun _ => failWith_not_ok _ _) hk
  rfl

theorem openat_ok_inv {d : Fd} {n : Bytes} {fl m : Nat} {h h' : Hist} {fd : Fd}
    (hr : Runs (Sys.openat d n fl m) h h' (.ok fd)) :
    h' = h ++ [(Call.openat d n (fl ||| O_NOFOLLOW ||| O_CLOEXEC ||| O_NOCTTY) m, Resp.fd fd)] :=
  openatFollow_ok_inv hr

theorem openat2_ok_inv {d : Fd} {p : Bytes} {fl rs : Nat} {h h' : Hist} {fd : Fd}
    (hr : Runs (Sys.openat2 d p fl rs) h h' (.ok fd)) :
    h' = h ++ [(Call.openat2 d (Path.toCString p) (fl ||| O_CLOEXEC) 0 rs OPEN_HOW_SIZE, Resp.fd fd)] := by
  unfold Sys.openat2 at hr
  obtain ⟨_, hr⟩ | ⟨_, hr⟩ := ite_inv hr
  · obtain ⟨_, _, _, hk⟩ := mbind_ok hr
    exact (failWith_not_ok _ _ hk).elim
  · obtain ⟨r, hk⟩ := wrapper_ok hr
    obtain ⟨rfl, rfl⟩ := fdDispatch_ok (fun _ => failWith_not_ok _ _) hk
    rfl

theorem dup_ok_inv {d : Fd} {h h' : Hist} {fd : Fd} (hr : Runs (Sys.dup d) h h' (.ok fd)) :
    h' = h ++ [(Call.dup d 3, Resp.fd fd)] := by
  obtain ⟨_, r, h1, hk⟩ := mbind_ok hr
  obtain rfl := call_ok h1
  obtain ⟨rfl, rfl⟩ := fdDispatch_ok (fun _ => throw_ok) hk
  rfl

theorem readlinkat_ok_inv {d : Fd} {h h' : Hist} {b : Bytes}
    (hr : Runs (Sys.readlinkat d []) h h' (.ok b)) :
    h' = h ++ [(Call.readlinkat d [] READLINK_BUF, Resp.bytes b)] := by
  obtain ⟨r, hk⟩ := wrapper_ok hr
  split at hk
  · split at hk
    · exact (failWith_not_ok _ _ hk).elim
    · obtain ⟨rfl, rfl⟩ := pure_ok hk; rfl
  · exact (failWith_not_ok _ _ hk).elim
  · exact (throw_ok hk).elim

theorem fstatfs_ok_inv {fd : Fd} {h h' : Hist} {t : Nat} (hr : Runs (Sys.fstatfs fd) h h' (.ok t)) :
    h' = h ++ [(.fstatfs fd, .nums [t])] := by
  obtain ⟨r, hk⟩ := wrapper_ok hr
  split at hk
  · obtain ⟨rfl, rfl⟩ := pure_ok hk; rfl
  · exact (failWith_not_ok _ _ hk).elim
  · exact (throw_ok hk).elim

theorem unitDispatch_inv {fds : List Fd} {site : String} {r : Resp} {h h' : Hist} {x : Except Err Unit}
    (hr : Runs (match r with
      | .unit => pure ()
      | .err e => Sys.failWith fds e
      | _ => throw (.badResp site) : M Unit) h h' x) :
    (r = .unit ∧ x = .ok () ∧ h' = h) ∨ (∃ e, r = .err e ∧ x = .error (.os e)) ∨ ∃ s, x = .error (.badResp s) := by
  split at hr
  · exact .inl ⟨rfl, (ret_inv hr).2, (ret_inv hr).1⟩
  · exact .inr (.inl ⟨_, rfl, failWith_inv _ _ _ _ _ hr⟩)
  · exact .inr (.inr ⟨_, (ret_inv hr).2⟩)

theorem unitCall_ok_inv {c : Call} {fds : List Fd} {site : String} {h h' : Hist}
    (hr : Runs (Sys.unitCall c fds site) h h' (.ok ())) : h' = h ++ [(c, Resp.unit)] := by
  obtain ⟨_, r, h1, hk⟩ := mbind_ok hr
  obtain rfl := call_ok h1
  obtain ⟨rfl, _, hh⟩ | ⟨_, _, he⟩ | ⟨_, he⟩ := unitDispatch_inv hk
  · exact hh
  · cases he
  · cases he

theorem hotfix_unit_inv {d : Fd} {c : Call} {fds : List Fd} {site : String} {h h' : Hist} {x : Except Err Unit}
    (hr : Runs (M.bind' (M.ofExcept (Sys.hotfix d)) fun _ => Sys.unitCall c fds site) h h' x) :
    x = .error (.os EBADF) ∨
    ∃ resp, (h ++ [(c, resp)]) <+: h' ∧
      ((resp = .unit ∧ x = .ok ()) ∨
       (∃ e, resp = .err e ∧ x = .error (.os e)) ∨
       (∃ s, x = .error (.badResp s))) := by
  obtain ⟨_, _, hx⟩ | ⟨resp, hk⟩ := wrapper_inv hr
  · exact .inl hx
  · exact .inr ⟨resp, hk.isPrefix, (unitDispatch_inv hk).imp_left fun h => ⟨h.1, h.2.1⟩⟩

theorem hotfix_unit_ok_inv {d : Fd} {c : Call} {fds : List Fd} {site : String} {h h' : Hist}
    (hr : Runs (M.bind' (M.ofExcept (Sys.hotfix d)) fun _ => Sys.unitCall c fds site) h h' (.ok ())) :
    h' = h ++ [(c, Resp.unit)] :=
  unitCall_ok_inv (hotfix_ok hr)

theorem close_inv {fd : Fd} {h h' : Hist} {u : Unit} (hr : Runs (Sys.close fd) h h' u) :
    ∃ r, h' = h ++ [(Call.close fd, r)] := by
  obtain ⟨r, hk⟩ := call_inv hr
  exact ⟨r, (ret_inv hk).1⟩

theorem statx_inv {dir : Fd} {path : Bytes} {mask : Nat} {h h' : Hist} {x : Except Err (Nat × Nat)}
    (hr : Runs (Sys.statx dir path mask) h h' x) :
    (x = .error (.os EBADF)) ∨
    ∃ resp, (h ++ [(.statx dir path STAT_FLAGS mask, resp)]) <+: h' ∧
      ((∃ m id, resp = .nums [m, id] ∧ x = .ok (m, id)) ∨
       (∃ e, resp = .err e ∧ x = .error (.os e)) ∨
       (∃ s, x = .error (.badResp s))) := by
  obtain hbad | ⟨resp, hk⟩ := wrapper_inv hr
  · exact .inl hbad.2.2
  · refine .inr ⟨resp, hk.isPrefix, ?_⟩
    split at hk
    · exact .inl ⟨_, _, rfl, (ret_inv hk).2⟩
    · exact .inr (.inl ⟨_, rfl, failWith_inv _ _ _ _ _ hk⟩)
    · exact .inr (.inr ⟨_, (ret_inv hk).2⟩)

/-- `fetch_mnt_id`: the first thing it does is `statx(dir, path)`, and it succeeds only on an answer with a mask and
an id (the id counts if the mask has the bit) or on the two errnos that mean "this kernel cannot tell" -/
theorem fetchMntId_ok {dir : Fd} {path : Bytes} {h h' : Hist} {id : Option Nat}
    (hr : Runs (Procfs.fetchMntId dir path) h h' (.ok id)) :
    ∃ resp, (h ++ [(.statx dir path STAT_FLAGS STATX_WANT, resp)]) <+: h' ∧
      ((∃ m i, resp = .nums [m, i] ∧ id = if hasAny m STATX_WANT then some i else none) ∨
       ((resp = .err ENOSYS ∨ resp = .err EINVAL) ∧ id = none)) := by
  unfold Procfs.fetchMntId at hr
  obtain ⟨hm, x, h1, hk⟩ := mbind_ok hr
  have unknown : ∀ {e : Nat}, Runs (if e = ENOSYS ∨ e = EINVAL then pure none else throw (.os e) : M (Option Nat))
      hm h' (.ok id) → (e = ENOSYS ∨ e = EINVAL) ∧ id = none := fun hk => by
    obtain ⟨hc, hk⟩ | ⟨_, hk⟩ := ite_inv hk
    · exact ⟨hc, (pure_ok hk).2⟩
    · exact (throw_ok hk).elim
  obtain rfl | ⟨resp, hpre, ⟨m, i, rfl, rfl⟩ | ⟨e, rfl, rfl⟩ | ⟨s, rfl⟩⟩ := statx_inv (try_ok h1)
  · exact absurd (unknown hk).1 (by decide)
  · exact ⟨_, hpre.trans hk.isPrefix, .inl ⟨m, i, rfl, (pure_ok hk).2⟩⟩
  · obtain ⟨he, rfl⟩ := unknown hk
    exact ⟨_, hpre.trans hk.isPrefix, .inr ⟨he.imp (congrArg Resp.err) (congrArg Resp.err), rfl⟩⟩
  · exact (throw_ok hk).elim

/-- a successful `verify_same_mnt` is a `fetch_mnt_id` that returned the handle's id: the comparison makes no call -/
theorem verifySameMnt_ok {rootMnt : Option Nat} {dir : Fd} {path : Bytes} {h h' : Hist}
    (hr : Runs (Procfs.verifySameMnt rootMnt dir path) h h' (.ok ())) : Runs (Procfs.fetchMntId dir path) h h' (.ok rootMnt) := by
  unfold Procfs.verifySameMnt at hr
  obtain ⟨hm, id, h1, hk⟩ := mbind_ok hr
  obtain ⟨hne, hk⟩ := unless_ok hk
  obtain ⟨rfl, _⟩ := pure_ok hk
  exact Decidable.not_not.mp hne ▸ h1

/-! ## Runs as traces

The same semantics with the history before the program forgotten: what is proved of `Runs` above carries over. -/

/-- trace-only runs: `RunsT p t r` — along the answers recorded in `t`, `p` ends with `r` -/
inductive RunsT : Prog α → Hist → α → Prop where
  | ret (a : α) : RunsT (.ret a) [] a
  | call (c : Call) (k : Resp → Prog α) (r : Resp) (t : Hist) (a : α) :
      RunsT (k r) t a → RunsT (.call c k) ((c, r) :: t) a

namespace RunsT

theorem ret_inv {a b : α} {t : Hist} (h : RunsT (.ret a) t b) : t = [] ∧ b = a := by
  cases h; exact ⟨rfl, rfl⟩

theorem call_inv {c : Call} {k : Resp → Prog α} {t : Hist} {a : α} (h : RunsT (.call c k) t a) :
    ∃ r t', t = (c, r) :: t' ∧ RunsT (k r) t' a := by
  cases h with
  | call _ _ r t' _ hk => exact ⟨r, t', rfl, hk⟩

theorem runs {p : Prog α} {t : Hist} {a : α} (h : RunsT p t a) (h0 : Hist) : Runs p h0 (h0 ++ t) a := by
  induction h generalizing h0 with
  | ret a => rw [List.append_nil]; exact .ret a h0
  | call c k r t a _ ih =>
    have := ih (h0 ++ [(c, r)])
    rw [List.append_assoc] at this
    exact .call c k r h0 _ a this

theorem _root_.Runs.runsT {p : Prog α} {h h' : Hist} {a : α} (hr : Runs p h h' a) :
    ∃ t, h' = h ++ t ∧ RunsT p t a := by
  induction hr with
  | ret a h => exact ⟨[], (List.append_nil h).symm, .ret a⟩
  | call c k r h h' a _ ih =>
    obtain ⟨t, rfl, ht⟩ := ih
    exact ⟨(c, r) :: t, List.append_assoc h _ t, .call c k r t a ht⟩

theorem of_runs {p : Prog α} {t : Hist} {a : α} (hr : Runs p [] t a) : RunsT p t a := by
  obtain ⟨_, rfl, h⟩ := hr.runsT
  exact h

theorem bind_inv {p : Prog α} {f : α → Prog β} {t : Hist} {b : β} (h : RunsT (Prog.bind p f) t b) :
    ∃ t1 t2 a, t = t1 ++ t2 ∧ RunsT p t1 a ∧ RunsT (f a) t2 b := by
  obtain ⟨t1, a, h1, h2⟩ := Runs.bind_inv (h.runs [])
  obtain ⟨t2, e, h2⟩ := h2.runsT
  exact ⟨t1, t2, a, e, of_runs h1, h2⟩

theorem mbind_inv' {p : M α} {f : α → M β} {t : Hist} {r : Except Err β} (h : RunsT (M.bind' p f) t r) :
    ∃ t1 t2 x, t = t1 ++ t2 ∧ RunsT p t1 x ∧
      RunsT (match x with | .ok a => f a | .error e => Prog.ret (.error e)) t2 r :=
  bind_inv h

theorem mbind_inv {p : M α} {f : α → M β} {t : Hist} {r : Except Err β} (h : RunsT (M.bind' p f) t r) :
    ∃ t1 t2 x, t = t1 ++ t2 ∧ RunsT p t1 x ∧
      ((∃ a, x = .ok a ∧ RunsT (f a) t2 r) ∨ (∃ e, x = .error e ∧ t2 = [] ∧ r = .error e)) := by
  obtain ⟨t1, t2, x, rfl, h1, h2⟩ := mbind_inv' h
  cases x with
  | ok a => exact ⟨t1, t2, _, rfl, h1, Or.inl ⟨a, rfl, h2⟩⟩
  | error e =>
    obtain ⟨rfl, rfl⟩ := ret_inv h2
    exact ⟨t1, [], _, rfl, h1, Or.inr ⟨e, rfl, rfl, rfl⟩⟩

theorem map_inv {p : Prog α} {f : α → β} {t : Hist} {b : β}
    (h : RunsT (Prog.bind p fun a => .ret (f a)) t b) : ∃ a, RunsT p t a ∧ b = f a :=
  (Runs.map_inv (h.runs [])).imp fun _ ha => ⟨of_runs ha.1, ha.2⟩

theorem lift_inv {p : Prog α} {t : Hist} {r : Except Err α} (h : RunsT (M.lift p) t r) :
    ∃ a, RunsT p t a ∧ r = .ok a :=
  map_inv h

theorem mcall_inv {c : Call} {t : Hist} {r : Except Err Resp} (h : RunsT (M.call c) t r) :
    ∃ x, t = [(c, x)] ∧ r = .ok x :=
  Runs.call_ok_inv (h.runs [])

theorem ofExcept_inv {x : Except Err α} {t : Hist} {r : Except Err α} (h : RunsT (M.ofExcept x) t r) :
    t = [] ∧ r = x :=
  Runs.ofExcept_inv (h.runs [])

theorem try_inv {p : M α} {t : Hist} {r : Except Err (Except Err α)} (h : RunsT (M.try' p) t r) :
    ∃ x, RunsT p t x ∧
      ((∃ a, x = .ok a ∧ r = .ok (.ok a)) ∨
       (∃ e, x = .error e ∧ ((e.isFatal = true ∧ r = .error e) ∨ (e.isFatal = false ∧ r = .ok (.error e))))) :=
  (Runs.try_inv (h.runs [])).imp fun _ hx => ⟨of_runs hx.1, hx.2⟩

theorem onErr_inv {p : M α} {c : Prog Unit} {t : Hist} {r : Except Err α} (h : RunsT (M.onErr p c) t r) :
    ∃ t1 t2 x, t = t1 ++ t2 ∧ RunsT p t1 x ∧ ∀ a, x = .ok a → t2 = [] ∧ r = .ok a := by
  unfold M.onErr at h
  obtain ⟨t1, t2, x, rfl, h1, h2⟩ := bind_inv h
  exact ⟨t1, t2, x, rfl, h1, fun a ha => by subst ha; exact ret_inv h2⟩

theorem failWith_result {α : Type} {e : Nat} {fds : List Fd} {t : Hist} {x : Except Err α}
    (h : RunsT (Sys.failWith fds e : M α) t x) : x = .error (.os e) :=
  failWith_inv _ _ _ _ _ (h.runs [])

theorem of_trace {α : Type} (p : Prog α) (o : Oracle) (h : Hist) :
    ∃ t, (p.trace o h).1 = h ++ t ∧ RunsT p t (p.trace o h).2 :=
  (Runs.of_trace p o h).runsT

end RunsT
