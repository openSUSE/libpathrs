import Pathrs.Proofs.Sat
import Pathrs.Discipline

/-!
# The syscall wrappers under any rely and guarantee

Each wrapper makes its one call — the obligation `D c` for that call is a hypothesis of its lemma; for the wrappers
that return a descriptor or inspect, it may assume the descriptor test the wrapper makes first — and otherwise only
the diagnostic calls of `failWith`, which a guarantee has to admit (`DiagOk`).
-/

open K

/-- `D` accepts everything the error-message machinery and descriptor bookkeeping do -/
structure DiagOk (D : Call → Prop) : Prop where
  gettid : D .gettid
  geteuid : D .geteuid
  probe : ∀ p, startsWith p b!"/proc/" → D (.fstatat AT_FDCWD p STAT_FLAGS)
  readlinkAbs : ∀ p, startsWith p b!"/proc/" → D (.readlinkAbs p)
  close : ∀ fd, D (.close fd)
  dup : ∀ fd, D (.dup fd 3)

/-- The setting of a pass over the library's programs: a rely `A`, what it implies of every descriptor the
kernel hands out (`I`; the programs use such descriptors in later calls), and a guarantee that admits the
diagnostics. -/
structure Pass (A : Call → Resp → Prop) (I : Fd → Prop) (D : Call → Prop) : Prop where
  fd : ∀ c n, A c (.fd n) → I n
  diag : DiagOk D

/-- any answers: nothing is known of the descriptors handed out -/
theorem Pass.any {D : Call → Prop} (h : DiagOk D) : Pass AnyAnswer Top D := ⟨fun _ _ _ => trivial, h⟩

/-- no guarantee: what is left is a statement about results under the rely -/
theorem Pass.top {A : Call → Resp → Prop} : Pass A Top Top :=
  ⟨fun _ _ _ => trivial, ⟨trivial, trivial, fun _ _ => trivial, fun _ _ => trivial, fun _ => trivial, fun _ => trivial⟩⟩

theorem startsWith_proc (rest : Bytes) : startsWith (b!"/proc/" ++ rest) b!"/proc/" := by rfl

variable {α : Type} {A : Call → Resp → Prop} {I : Fd → Prop} {D : Call → Prop}

namespace Sys

theorem hotfix_eq_ok {fd : Fd} : hotfix fd = .ok () ↔ fd = AT_FDCWD ∨ 0 ≤ fd := by
  unfold hotfix
  split <;> simp [*]

theorem hotfix_satE {dir : Fd} {k : M α} {V : α → Prop} {E : Err → Prop} (hE : E (.os EBADF))
    (hk : (dir = AT_FDCWD ∨ 0 ≤ dir) → SatE A D k V E) :
    SatE A D (M.bind' (M.ofExcept (hotfix dir)) fun _ => k) V E := by
  unfold hotfix
  split
  · exact hk ‹_›
  · exact SatE.throw hE

theorem hotfix_sat {dir : Fd} {k : M α} {Q : α → Prop} (hk : (dir = AT_FDCWD ∨ 0 ≤ dir) → SatM A D k Q) :
    SatM A D (M.bind' (M.ofExcept (hotfix dir)) fun _ => k) Q :=
  hotfix_satE trivial hk

variable (P : Pass A I D)
include P

theorem gettid_sat : Sat A D gettid Top :=
  .call P.diag.gettid fun _ _ => by split <;> exact .ret trivial

theorem geteuid_sat : Sat A D geteuid Top :=
  .call P.diag.geteuid fun _ _ => by split <;> exact .ret trivial

theorem freeze_sat (fd : Fd) : Sat A D (freeze fd) Top := by
  have probe : ∀ cands, Sat A D (freeze.probe cands) Top := fun cands => by
    induction cands with
    | nil => exact .ret trivial
    | cons cand rest ih =>
      refine .call (P.diag.probe _ (startsWith_proc cand)) fun _ _ => ?_
      split
      · exact ih
      · exact .ret trivial
  refine (gettid_sat P).bind fun _ _ => (probe _).bind fun _ _ => ?_
  split
  · exact .ret trivial
  · refine .call (P.diag.readlinkAbs _ ?_) fun _ _ => .ret trivial
    simp only [List.append_assoc]; exact startsWith_proc _

/-- building an error value: diagnostics only, and the result is the error it was built for -/
theorem failWith_satE (fds : List Fd) (e : Nat) {V : α → Prop} : SatE A D (failWith fds e) V (· = .os e) := by
  unfold failWith
  induction fds with
  | nil => exact SatE.throw rfl
  | cons fd rest ih => exact (freeze_sat P fd).bind fun _ _ => ih

theorem failWith_sat (fds : List Fd) (e : Nat) {Q : α → Prop} : SatM A D (failWith fds e) Q :=
  Sat.mono (failWith_satE P fds e) (Out.mono (fun _ h => h) fun _ _ => trivial)

theorem close_sat (fd : Fd) : Sat A D (close fd) Top := .call (P.diag.close fd) fun _ _ => .ret trivial

theorem closeAll_sat (fds : List Fd) : Sat A D (closeAll fds) Top := by
  unfold closeAll
  generalize fds.eraseDups = l
  induction l with
  | nil => exact .ret trivial
  | cons fd rest ih => exact (close_sat P fd).bind fun _ _ => ih

theorem release_sat (fd : Fd) (held : List Fd) : Sat A D (release fd held) Top :=
  Sat.ite (fun _ => .ret trivial) fun _ => close_sat P fd

/-- the shape of the wrappers that return a descriptor: it is one the kernel handed out -/
theorem fdCall_sat {c : Call} {site : String} {onErr : Nat → M Fd} (hc : D c)
    (he : ∀ e, SatM A D (onErr e) I) :
    SatM A D (M.bind' (M.call c) fun r => match r with
      | .fd n => pure n
      | .err e => onErr e
      | _ => throw (.badResp site)) I :=
  (SatM.call hc fun _ hr => hr).bind fun r hr => by
    split
    · exact SatM.pure (P.fd _ _ hr)
    · exact he _
    · exact SatM.throw

theorem openatFollow_sat {dir : Fd} {name : Bytes} {flags mode : Nat}
    (hc : (dir = AT_FDCWD ∨ 0 ≤ dir) → D (.openat dir name (flags ||| O_CLOEXEC ||| O_NOCTTY) mode)) :
    SatM A D (openatFollow dir name flags mode) I :=
  hotfix_sat fun h => fdCall_sat P (hc h) fun _ => failWith_sat P _ _

theorem openat_sat {dir : Fd} {name : Bytes} {flags mode : Nat}
    (hc : (dir = AT_FDCWD ∨ 0 ≤ dir) →
      D (.openat dir name (flags ||| O_NOFOLLOW ||| O_CLOEXEC ||| O_NOCTTY) mode)) :
    SatM A D (openat dir name flags mode) I :=
  openatFollow_sat P hc

theorem openat2_sat {dir : Fd} {path : Bytes} {flags resolve : Nat}
    (hc : (dir = AT_FDCWD ∨ 0 ≤ dir) →
      D (.openat2 dir (Path.toCString path) (flags ||| O_CLOEXEC) 0 resolve OPEN_HOW_SIZE)) :
    SatM A D (openat2 dir path flags resolve) I :=
  Sat.ite (fun _ => hotfix_sat fun _ => failWith_sat P _ _) fun _ =>
    hotfix_sat fun h => fdCall_sat P (hc h) fun _ => failWith_sat P _ _

theorem dup_sat (fd : Fd) : SatM A D (dup fd) I :=
  fdCall_sat P (P.diag.dup fd) fun _ => SatM.throw

theorem fsopen_sat {fstype : Bytes} {flags : Nat} (hc : D (.fsopen fstype flags)) :
    SatM A D (fsopen fstype flags) I :=
  fdCall_sat P hc fun _ => SatM.throw

theorem fsmount_sat {fd : Fd} {flags attrs : Nat} (hc : (fd = AT_FDCWD ∨ 0 ≤ fd) → D (.fsmount fd flags attrs)) :
    SatM A D (fsmount fd flags attrs) I :=
  hotfix_sat fun h => fdCall_sat P (hc h) fun _ => failWith_sat P _ _

theorem openTree_sat {dir : Fd} {path : Bytes} {flags : Nat}
    (hc : (dir = AT_FDCWD ∨ 0 ≤ dir) → D (.openTree dir path flags)) :
    SatM A D (openTree dir path flags) I :=
  hotfix_sat fun h => fdCall_sat P (hc h) fun _ => failWith_sat P _ _

/-! The wrappers that return no descriptor: one call, then a value, an error value or a fatal error. -/

theorem readlinkat_sat {dir : Fd} {name : Bytes}
    (hc : (dir = AT_FDCWD ∨ 0 ≤ dir) → D (.readlinkat dir name READLINK_BUF)) :
    SatM A D (readlinkat dir name) Top :=
  hotfix_sat fun h => (SatM.call (hc h) fun _ _ => trivial).bind fun _ _ => by
    split
    · split
      · exact failWith_sat P _ _
      · exact SatM.pure trivial
    · exact failWith_sat P _ _
    · exact SatM.throw

theorem fstatat_sat {dir : Fd} {name : Bytes} (hc : (dir = AT_FDCWD ∨ 0 ≤ dir) → D (.fstatat dir name STAT_FLAGS)) :
    SatM A D (fstatat dir name) Top :=
  hotfix_sat fun h => (SatM.call (hc h) fun _ _ => trivial).bind fun _ _ => by
    split
    · exact SatM.pure trivial
    · exact failWith_sat P _ _
    · exact SatM.throw

omit P in
/-- `exists_at` builds no error value: the same call as `fstatat` and nothing else -/
theorem existsAt_sat {dir : Fd} {name : Bytes} (hc : (dir = AT_FDCWD ∨ 0 ≤ dir) → D (.fstatat dir name STAT_FLAGS)) :
    Sat A D (existsAt dir name) Top := by
  unfold existsAt
  split
  · exact .ret trivial
  · exact .call (hc (hotfix_eq_ok.mp ‹_›)) fun _ _ => by split <;> exact .ret trivial

theorem statx_sat {dir : Fd} {name : Bytes} {mask : Nat}
    (hc : (dir = AT_FDCWD ∨ 0 ≤ dir) → D (.statx dir name STAT_FLAGS mask)) :
    SatM A D (statx dir name mask) Top :=
  hotfix_sat fun h => (SatM.call (hc h) fun _ _ => trivial).bind fun _ _ => by
    split
    · exact SatM.pure trivial
    · exact failWith_sat P _ _
    · exact SatM.throw

theorem fstatfs_sat {fd : Fd} (hc : (fd = AT_FDCWD ∨ 0 ≤ fd) → D (.fstatfs fd)) :
    SatM A D (fstatfs fd) Top :=
  hotfix_sat fun h => (SatM.call (hc h) fun _ _ => trivial).bind fun _ _ => by
    split
    · exact SatM.pure trivial
    · exact failWith_sat P _ _
    · exact SatM.throw

theorem unitCall_sat {c : Call} (fds : List Fd) (site : String) (hc : D c) :
    SatM A D (unitCall c fds site) Top :=
  (SatM.call hc fun _ _ => trivial).bind fun _ _ => by
    split
    · exact SatM.pure trivial
    · exact failWith_sat P _ _
    · exact SatM.throw

theorem mkdirat_sat {dir : Fd} {name : Bytes} {mode : Nat} (hc : D (.mkdirat dir name mode)) :
    SatM A D (mkdirat dir name mode) Top :=
  hotfix_sat fun _ => unitCall_sat P _ _ hc

theorem mknodat_sat {dir : Fd} {name : Bytes} {mode dev : Nat} (hc : D (.mknodat dir name mode dev)) :
    SatM A D (mknodat dir name mode dev) Top :=
  hotfix_sat fun _ => unitCall_sat P _ _ hc

theorem unlinkat_sat {dir : Fd} {name : Bytes} {flags : Nat} (hc : D (.unlinkat dir name flags)) :
    SatM A D (unlinkat dir name flags) Top :=
  hotfix_sat fun _ => unitCall_sat P _ _ hc

theorem symlinkat_sat {target : Bytes} {dir : Fd} {name : Bytes} (hc : D (.symlinkat target dir name)) :
    SatM A D (symlinkat target dir name) Top :=
  hotfix_sat fun _ => unitCall_sat P _ _ hc

theorem linkat_sat {odir ndir : Fd} {oname nname : Bytes} {flags : Nat}
    (hc : D (.linkat odir oname ndir nname flags)) : SatM A D (linkat odir oname ndir nname flags) Top :=
  hotfix_sat fun _ => hotfix_sat fun _ => unitCall_sat P _ _ hc

theorem renameat2_sat {odir ndir : Fd} {oname nname : Bytes} {flags : Nat}
    (h0 : D (.renameat odir oname ndir nname)) (hc : D (.renameat2 odir oname ndir nname flags)) :
    SatM A D (renameat2 odir oname ndir nname flags) Top :=
  Sat.ite (fun _ => hotfix_sat fun _ => hotfix_sat fun _ => unitCall_sat P _ _ h0) fun _ =>
    hotfix_sat fun _ => hotfix_sat fun _ => unitCall_sat P _ _ hc

theorem fsconfigSetString_sat {fd : Fd} {key val : Bytes} (hc : D (.fsconfigSetString fd key val)) :
    SatM A D (fsconfigSetString fd key val) Top :=
  hotfix_sat fun _ => unitCall_sat P _ _ hc

theorem fsconfigCreate_sat {fd : Fd} (hc : D (.fsconfigCreate fd)) : SatM A D (fsconfigCreate fd) Top :=
  hotfix_sat fun _ => unitCall_sat P _ _ hc

end Sys
