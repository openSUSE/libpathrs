import Pathrs.Proofs.Runs
import Pathrs.Kernel.World

/-!
# Runs whose answers come from a world

`Runs` quantifies over every environment; `Prog.run w` is the one environment `World.answer w`.
A run all of whose new answers are the world's is that evaluation.
-/


/-- every answer of this stretch of history is the world's -/
def AnswersFrom (w : World) (l : Hist) : Prop := ∀ x ∈ l, x.2 = w.answer x.1

namespace Runs

theorem world_det {α : Type} {w : World} {p : Prog α} {h h' : Hist} {a : α} (hr : Runs p h h' a) :
    ∀ l, h' = h ++ l → AnswersFrom w l → a = p.run w := by
  induction hr with
  | ret a h => intro _ _ _; rfl
  | call c k r h h' a hk ih =>
    intro l hl ha
    obtain ⟨t, ht⟩ := Runs.isPrefix hk
    have hl' : l = (c, r) :: t := by
      rw [← ht, List.append_assoc] at hl
      exact (List.append_cancel_left hl).symm
    have hr : r = w.answer c := ha (c, r) (by rw [hl']; exact List.mem_cons_self)
    have := ih t (by rw [← ht]) (fun x hx => ha x (by rw [hl']; exact List.mem_cons_of_mem _ hx))
    rw [this, hr]
    rfl

end Runs
