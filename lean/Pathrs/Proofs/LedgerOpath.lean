import Pathrs.Proofs.LedgerProcfs
import Pathrs.Proofs.Lookups

/-!
# Ledger rules of the emulated in-root resolver
-/

open Opath (stackOp_eq_ok dirs_popPart dirs_swapLink)

namespace LedgerLogic

variable {ext : List Fd}

/-! ## Shared descriptors

The walk holds `cur`, the root duplicate and the stack's directories by reference count: the same number may
be listed several times.  What it owns is the set of those numbers, written `l.eraseDups`. -/

theorem Led.releaseMany_then {pre : List Fd} {k : M β} {g' : β → List Fd} (cands held : List Fd)
    (h : ∀ x, x ∈ pre ↔ x ∈ cands ∨ x ∈ held) (hk : Led ext held.eraseDups k g') :
    Led ext pre (M.bind' (M.lift (Opath.releaseMany cands held)) fun _ => k) g' := by
  refine (Led.lift (LedP.closeAll_mem _ held.eraseDups (nodup_eraseDups held) (fun x => ?_) ?_)).bind
    fun _ => hk
  · rw [h x, List.mem_eraseDups, List.mem_filter]
    by_cases hx : x ∈ held <;> simp [hx]
  · intro x hx
    rw [List.mem_eraseDups]
    simpa using (List.mem_filter.mp hx).2

theorem checkCurrent_led (env : Env) (cur root : Fd) (expected : List Bytes) :
    Led ext [] (Opath.checkCurrent env cur root expected) fun _ => [] := by
  unfold Opath.checkCurrent
  refine (asUnsafePath_led env root).bind fun rootPath => (asUnsafePath_led env cur).bind fun curPath => ?_
  refine Led.ite (fun _ => Led.throw) fun _ => (asUnsafePath_led env root).bind fun _ => ?_
  exact Led.ite (fun _ => Led.throw) fun _ => Led.pure rfl

theorem mayFollowLink_led (env : Env) (dir link : Fd) :
    Led ext [] (Opath.mayFollowLink env dir link) fun _ => [] := by
  unfold Opath.mayFollowLink
  exact (Led.lift geteuid_led).bind fun _ => (fstatat_led dir []).bind fun _ =>
    (fstatat_led link []).bind fun _ => Led.ite (fun _ => Led.pure rfl) fun _ => Led.throw

/-- What a walk started with the stack `s0` leaves: the result's handle and the directories of the stack it
returns — of `s0` when the stack is switched off, for then the stack is handed through untouched. -/
def ownedAfter (useStack : Bool) (s0 : SStack) (ls : Lookup Fd × SStack) : List Fd :=
  (hnd ls.1 :: (if useStack then ls.2 else s0).dirs).eraseDups

theorem walkDone_led {useStack : Bool} (l : Lookup Fd) (s : SStack) :
    Led ext (hnd l :: s.dirs).eraseDups (pure (l, s)) (ownedAfter useStack s) :=
  Led.pure (by simp only [ownedAfter, ite_self])

theorem ownedAfter_stackOp {cfg : Opath.WalkCfg} {s s' : SStack} {f : SStack → Except SErr SStack}
    (hp : Opath.stackOp cfg s f = .ok s') : ownedAfter cfg.useStack s' = ownedAfter cfg.useStack s := by
  funext ls
  have := stackOp_eq_ok hp
  unfold ownedAfter
  split
  · rfl
  · rw [if_neg ‹_›] at this
    rw [this]

theorem exitPartial_led (cfg : Opath.WalkCfg) (st : Opath.WalkSt) (extra : List Fd) (remaining : Bytes) (e : Err)
    {pre : List Fd} (h : ∀ x, x ∈ pre ↔ x ∈ extra ∨ x ∈ Opath.owned cfg st) :
    Led ext pre (Opath.exitPartial cfg st extra remaining e) (ownedAfter cfg.useStack st.stack) := by
  unfold Opath.exitPartial
  refine Led.releaseMany_then _ _ (fun x => ?_) (walkDone_led (.part st.cur remaining e) st.stack)
  rw [h x]
  simp only [Opath.owned, List.mem_cons]
  grind


theorem walk_led (env : Env) (cfg : Opath.WalkCfg) (st : Opath.WalkSt) :
    ∀ pre : List Fd, (∀ x, x ∈ pre ↔ x ∈ Opath.owned cfg st) →
      Led ext pre (Opath.walk env cfg st) (ownedAfter cfg.useStack st.stack) := by
  fun_induction Opath.walk env cfg st with
  | case1 st hrem' =>
    intro pre hO
    refine ((checkCurrent_led env _ _ _).onErr pre (LedP.closeAll_of_mem _ hO)).bind fun _ => ?_
    split
    · rename_i hcr
      refine ((openat_led cfg.root Path.dot _ 0).onErr pre (LedP.closeAll_of_mem _ hO)).bind fun res => ?_
      refine Led.releaseMany_then _ _ (fun x => ?_) (walkDone_led (.complete res) st.stack)
      simp only [List.nil_append, List.cons_append, List.mem_cons, List.not_mem_nil, hO x, Opath.owned]
      grind only
    · rw [M.bind_ok]
      refine Led.releaseMany_then _ _ (fun x => ?_) (walkDone_led (.complete st.cur) st.stack)
      simp only [List.nil_append, List.mem_cons, List.not_mem_nil, hO x, Opath.owned]
      grind only
  | case2 st part0 rest hrem' hdd e hst =>
    intro pre hO
    exact (Led.lift (LedP.closeAll_of_mem _ hO)).bind fun _ => Led.throw
  | case3 st part0 rest hrem' hdd stack' hst ih =>
    intro pre hO
    refine Led.releaseMany_then _ _ (fun x => ?_) (ownedAfter_stackOp hst ▸ ih _ fun x => by simp [Opath.owned])
    /- The goal, here and at each later `releaseMany`: `x ∈ pre ↔ x ∈ cands ∨ x ∈ held`, what is owned is what is
    being released or still held.  With `hO` and `owned` unfolded it is propositional in the `x = …` and `x ∈ ….dirs`,
    given the one fact about the stack that `hsub` states: the new stack's directories are among the old ones.
    `grind` costs several times as much with the induction hypotheses in sight, hence the `clear`. -/
    have hsub := dirs_popPart hst x
    clear ih
    simp only [List.mem_cons, hO x, Opath.owned]
    grind only
  | case4 st part0 rest hrem' remaining hdd part expected' ih1 ih2 =>
    intro pre hO
    refine ((openat_led st.cur part _ 0).try' pre).bind fun r => ?_
    cases r with
    | error e => exact exitPartial_led cfg st [] _ _ fun x => by simp [okOr, hO x]
    | ok next =>
      have hfail : LedP ext (next :: pre) (Sys.closeAll (next :: Opath.owned cfg st)) fun _ => [] :=
        LedP.closeAll_of_mem _ fun x => by simp only [List.mem_cons, hO x]
      refine (Led.onErr (pre := []) (next :: pre)
        (Led.ite (fun _ => checkCurrent_led env _ _ _) fun _ => Led.pure rfl) hfail).bind fun _ => ?_
      refine ((fstatat_led next []).onErr (next :: pre) hfail).bind fun md => Led.ite (fun _ => ?_) fun _ => ?_
      · generalize hst : Opath.stackOp cfg st.stack (·.popPart part) = so
        cases so with
        | error e => exact (Led.lift hfail).bind fun _ => Led.throw
        | ok stack' =>
          refine Led.releaseMany_then _ _ (fun x => ?_)
            (ownedAfter_stackOp hst ▸ ih1 next stack' _ fun x => List.mem_eraseDups)
          have hsub := dirs_popPart hst x
          clear ih1 ih2 hfail
          simp only [List.nil_append, List.mem_cons, hO x, Opath.owned]
          grind only
      · refine Led.ite (fun _ => ?_) fun _ => Led.ite (fun _ => ?_) fun _ => ?_
        · refine Led.releaseMany_then _ _ (fun x => ?_) ?_
          · clear ih1 ih2 hfail
            simp only [List.nil_append, List.mem_cons, List.not_mem_nil, hO x, Opath.owned]
            grind only
          refine ((checkCurrent_led env _ _ _).onErr (next :: cfg.root :: st.stack.dirs).eraseDups
            (LedP.closeAll_of_mem _ fun x => List.mem_eraseDups)).bind fun _ => ?_
          refine Led.releaseMany_then _ _ (fun x => ?_) (walkDone_led (.complete next) st.stack)
          clear ih1 ih2 hfail
          simp only [List.nil_append, List.mem_eraseDups, List.mem_cons, List.not_mem_nil]
          grind only
        · exact exitPartial_led cfg st [next] _ _ fun x => by simp [hO x]
        · refine ((mayFollowLink_led env st.cur next).onErr (next :: pre) hfail).bind fun _ =>
            Led.dite (fun _ => ?_) fun hlim => ?_
          · exact exitPartial_led cfg st [next] _ _ fun x => by simp [hO x]
          · refine ((readlinkat_led next []).onErr (next :: pre) hfail).bind fun target => ?_
            refine (Led.onErr (pre := []) (next :: pre)
              (Led.ite (fun _ => isMagiclinkFilesystem_led next) fun _ => Led.pure rfl) hfail).bind fun magic => ?_
            refine Led.ite (fun _ => (Led.lift hfail).bind fun _ => Led.throw) fun _ => ?_
            generalize hst : Opath.stackOp cfg st.stack (·.swapLink part st.cur remaining target) = so
            cases so with
            | error e => exact (Led.lift hfail).bind fun _ => Led.throw
            | ok stack' =>
              refine Led.releaseMany_then _ _ (fun x => ?_)
                (ownedAfter_stackOp hst ▸ ih2 hlim target stack' _ fun x => List.mem_eraseDups)
              have hsub := dirs_swapLink hst x
              clear ih1 ih2 hfail
              simp only [List.nil_append, List.mem_cons, hO x, Opath.owned]
              grind only

theorem doResolve_led (env : Env) (root : Fd) (path : Bytes) (rflags : Nat) (nofollow useStack : Bool) :
    Led ext [] (Opath.doResolve env root path rflags nofollow useStack)
      (ownedAfter useStack []) := by
  unfold Opath.doResolve
  refine (dup_led root).bind fun rd => Led.ite (fun _ => Led.pure ?_) fun _ => ?_
  · cases useStack <;> rfl
  · exact walk_led env _ _ _ fun x => by simp [Opath.owned, SStack.dirs]

theorem opath_resolve_led (env : Env) (root : Fd) (path : Bytes) (rflags : Nat) (nofollow : Bool) :
    Led ext [] (Opath.resolve env root path rflags nofollow) fun fd => [fd] := by
  unfold Opath.resolve
  refine (doResolve_led env root path rflags nofollow false).bind fun res => ?_
  obtain ⟨l, s⟩ := res
  cases l with
  | complete h => exact Led.pure rfl
  | part h rem e => exact Led.close_then h Led.throw

/-- success hands out the lookup's handle; no proof uses `PostL` or `PostL.err` -/
def PostL (S : FdSet) : Except Err (Lookup Fd) → FdSet → Prop
  | .ok l, S' => ¬ S (hnd l) ∧ S' = ins (hnd l) S
  | .error _, S' => S' = S

theorem PostL.err {S : FdSet} (e : Err) : PostL S (.error e) S := rfl

theorem opath_resolvePartial_led (env : Env) (root : Fd) (path : Bytes) (rflags : Nat) (nofollow : Bool) :
    Led ext [] (Opath.resolvePartial env root path rflags nofollow) fun l => [hnd l] := by
  unfold Opath.resolvePartial
  refine (doResolve_led env root path rflags nofollow true).bind fun res => ?_
  obtain ⟨l, s⟩ := res
  cases l with
  | complete h =>
    refine Led.releaseMany_then _ _ (fun x => ?_) (Led.pure rfl)
    simp only [ownedAfter, hnd, ↓reduceIte, List.mem_eraseDups, List.mem_cons, List.not_mem_nil]
    grind
  | part h rem e =>
    cases s with
    | nil => exact Led.pure rfl
    | cons e0 rest0 =>
      refine Led.releaseMany_then _ _ (fun x => ?_) (Led.pure rfl)
      simp only [ownedAfter, hnd, ↓reduceIte, List.mem_eraseDups, List.mem_cons, List.not_mem_nil, SStack.dirs,
        List.map_cons]
      grind

end LedgerLogic
