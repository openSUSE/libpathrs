import Pathrs.Proofs.LedgerLogic

/-!
# Ledger rules of the syscall wrappers
-/

open Ledger

namespace LedgerLogic

variable {ext : List Fd}

theorem gettid_led : LedP ext [] Sys.gettid fun _ => [] := by
  unfold Sys.gettid
  refine LedG.call rfl fun r => ?_
  split <;> exact LedP.ret rfl

theorem geteuid_led : LedP ext [] Sys.geteuid fun _ => [] := by
  unfold Sys.geteuid
  refine LedG.call rfl fun r => ?_
  split <;> exact LedP.ret rfl

theorem freeze_probe_led : ∀ cands, LedP ext [] (Sys.freeze.probe cands) fun _ => [] := by
  intro cands
  induction cands with
  | nil => rw [Sys.freeze.probe.eq_1]; exact LedP.ret rfl
  | cons cand rest ih =>
    rw [Sys.freeze.probe.eq_2]
    refine LedG.call rfl fun r => ?_
    split
    · exact ih
    · exact LedP.ret rfl

theorem freeze_led (fd : Fd) : LedP ext [] (Sys.freeze fd) fun _ => [] := by
  unfold Sys.freeze
  refine LedP.bind gettid_led fun tid => LedP.bind (freeze_probe_led _) fun x => ?_
  split
  · exact LedP.ret rfl
  · exact LedG.call rfl fun _ => LedP.ret rfl

theorem failWith_led {α : Type} (fds : List Fd) (e : Nat) (g : α → List Fd) :
    Led ext [] (Sys.failWith (α := α) fds e) g := by
  unfold Sys.failWith
  apply Led.ofP
  induction fds with
  | nil => exact LedP.ret rfl
  | cons fd rest ih => exact LedP.bind (freeze_led fd) fun _ => ih

theorem wrapper_led {α : Type} (dir : Fd) {k : M α} {g : α → List Fd} (hk : Led ext [] k g) :
    Led ext [] (M.bind' (M.ofExcept (Sys.hotfix dir)) fun _ => k) g :=
  Led.bind_ofExcept fun _ => hk

/-- the shape of the wrappers that return a descriptor -/
theorem fdcall_led (c : Call) (site : String) (onE : Nat → M Fd) (hnc : isClose c = false)
    (hfd : ∀ n, produced c (.fd n) = some n) (herr : ∀ e, produced c (.err e) = none)
    (hE : ∀ e, Led ext [] (onE e) fun fd => [fd]) :
    Led ext [] (M.bind' (M.call c) fun r => match r with
      | .fd n => pure n
      | .err e => onE e
      | _ => throw (.badResp site)) fun fd => [fd] := by
  refine Led.call hnc fun r => ?_
  split
  · rw [hfd]; exact Led.pure rfl
  · rw [herr]; exact hE _
  · exact Led.throw_fatal rfl

theorem openatFollow_led (dir : Fd) (name : Bytes) (flags mode : Nat) :
    Led ext [] (Sys.openatFollow dir name flags mode) fun fd => [fd] := by
  unfold Sys.openatFollow
  exact wrapper_led dir <| fdcall_led _ _ _ rfl (fun _ => rfl) (fun _ => rfl)
    fun e => failWith_led _ _ _

theorem openat_led (dir : Fd) (name : Bytes) (flags mode : Nat) :
    Led ext [] (Sys.openat dir name flags mode) fun fd => [fd] :=
  openatFollow_led _ _ _ _

theorem openat2_led (dir : Fd) (path : Bytes) (flags resolve : Nat) :
    Led ext [] (Sys.openat2 dir path flags resolve) fun fd => [fd] :=
  Led.ite (fun _ => wrapper_led dir (failWith_led _ _ _)) fun _ =>
    wrapper_led dir <| fdcall_led _ _ _ rfl (fun _ => rfl) (fun _ => rfl) fun e => failWith_led _ _ _

theorem dup_led (fd : Fd) : Led ext [] (Sys.dup fd) fun fd => [fd] := by
  unfold Sys.dup
  exact fdcall_led _ _ _ rfl (fun _ => rfl) (fun _ => rfl) fun e => Led.throw

theorem fsopen_led (t : Bytes) (f : Nat) : Led ext [] (Sys.fsopen t f) fun fd => [fd] := by
  unfold Sys.fsopen
  exact fdcall_led _ _ _ rfl (fun _ => rfl) (fun _ => rfl) fun e => Led.throw

theorem fsmount_led (fd : Fd) (f a : Nat) : Led ext [] (Sys.fsmount fd f a) fun fd => [fd] := by
  unfold Sys.fsmount
  exact wrapper_led fd <| fdcall_led _ _ _ rfl (fun _ => rfl) (fun _ => rfl)
    fun e => failWith_led _ _ _

theorem openTree_led (dir : Fd) (path : Bytes) (f : Nat) :
    Led ext [] (Sys.openTree dir path f) fun fd => [fd] := by
  unfold Sys.openTree
  exact wrapper_led dir <| fdcall_led _ _ _ rfl (fun _ => rfl) (fun _ => rfl)
    fun e => failWith_led _ _ _

theorem readlinkat_led (dir : Fd) (name : Bytes) : Led ext [] (Sys.readlinkat dir name) fun _ => [] := by
  unfold Sys.readlinkat
  refine wrapper_led dir <| Led.call rfl fun r => ?_
  split
  · exact Led.ite (fun _ => failWith_led _ _ _) fun _ => Led.pure rfl
  · exact failWith_led _ _ _
  · exact Led.throw_fatal rfl

theorem fstatat_led (dir : Fd) (name : Bytes) : Led ext [] (Sys.fstatat dir name) fun _ => [] := by
  unfold Sys.fstatat
  refine wrapper_led dir <| Led.call rfl fun r => ?_
  split
  · exact Led.pure rfl
  · exact failWith_led _ _ _
  · exact Led.throw_fatal rfl

theorem existsAt_led (dir : Fd) (name : Bytes) : LedP ext [] (Sys.existsAt dir name) fun _ => [] := by
  unfold Sys.existsAt
  split
  · exact LedP.ret rfl
  · refine LedG.call rfl fun r => ?_
    split <;> exact LedP.ret rfl

theorem statx_led (dir : Fd) (name : Bytes) (mask : Nat) :
    Led ext [] (Sys.statx dir name mask) fun _ => [] := by
  unfold Sys.statx
  refine wrapper_led dir <| Led.call rfl fun r => ?_
  split
  · exact Led.pure rfl
  · exact failWith_led _ _ _
  · exact Led.throw_fatal rfl

theorem fstatfs_led (fd : Fd) : Led ext [] (Sys.fstatfs fd) fun _ => [] := by
  unfold Sys.fstatfs
  refine wrapper_led fd <| Led.call rfl fun r => ?_
  split
  · exact Led.pure rfl
  · exact failWith_led _ _ _
  · exact Led.throw_fatal rfl

theorem unitCall_led (c : Call) (fds : List Fd) (site : String)
    (hc : ∀ r, produced c r = none) (hnc : isClose c = false) :
    Led ext [] (Sys.unitCall c fds site) fun _ => [] := by
  unfold Sys.unitCall
  refine Led.call hnc fun r => ?_
  rw [hc]
  split
  · exact Led.pure rfl
  · exact failWith_led _ _ _
  · exact Led.throw_fatal rfl

theorem mkdirat_led (dir : Fd) (name : Bytes) (mode : Nat) :
    Led ext [] (Sys.mkdirat dir name mode) fun _ => [] :=
  wrapper_led dir <| unitCall_led _ _ _ (fun _ => rfl) rfl

theorem mknodat_led (dir : Fd) (name : Bytes) (mode dev : Nat) :
    Led ext [] (Sys.mknodat dir name mode dev) fun _ => [] :=
  wrapper_led dir <| unitCall_led _ _ _ (fun _ => rfl) rfl

theorem unlinkat_led (dir : Fd) (name : Bytes) (flags : Nat) :
    Led ext [] (Sys.unlinkat dir name flags) fun _ => [] :=
  wrapper_led dir <| unitCall_led _ _ _ (fun _ => rfl) rfl

theorem symlinkat_led (target : Bytes) (dir : Fd) (name : Bytes) :
    Led ext [] (Sys.symlinkat target dir name) fun _ => [] :=
  wrapper_led dir <| unitCall_led _ _ _ (fun _ => rfl) rfl

theorem linkat_led (odir : Fd) (oname : Bytes) (ndir : Fd) (nname : Bytes) (flags : Nat) :
    Led ext [] (Sys.linkat odir oname ndir nname flags) fun _ => [] :=
  wrapper_led odir <| wrapper_led ndir <| unitCall_led _ _ _ (fun _ => rfl) rfl

theorem renameat_led (odir : Fd) (oname : Bytes) (ndir : Fd) (nname : Bytes) :
    Led ext [] (Sys.renameat odir oname ndir nname) fun _ => [] :=
  wrapper_led odir <| wrapper_led ndir <| unitCall_led _ _ _ (fun _ => rfl) rfl

theorem renameat2_led (odir : Fd) (oname : Bytes) (ndir : Fd) (nname : Bytes) (flags : Nat) :
    Led ext [] (Sys.renameat2 odir oname ndir nname flags) fun _ => [] :=
  Led.ite (fun _ => renameat_led _ _ _ _) fun _ =>
    wrapper_led odir <| wrapper_led ndir <| unitCall_led _ _ _ (fun _ => rfl) rfl

theorem fsconfigSetString_led (fd : Fd) (k v : Bytes) :
    Led ext [] (Sys.fsconfigSetString fd k v) fun _ => [] :=
  wrapper_led fd <| unitCall_led _ _ _ (fun _ => rfl) rfl

theorem fsconfigCreate_led (fd : Fd) : Led ext [] (Sys.fsconfigCreate fd) fun _ => [] :=
  wrapper_led fd <| unitCall_led _ _ _ (fun _ => rfl) rfl

end LedgerLogic
