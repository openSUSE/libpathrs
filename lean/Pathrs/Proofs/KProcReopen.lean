import Pathrs.Proofs.KProcOpen
import Pathrs.Proofs.KOpen

/-!
# `open_follow` and `reopen` on a procfs tree with mounts: never an object that was mounted over

`open_follow` is computed as a function of the world (`C07Table.openFollowSpec`: the `readlink` probe, then the
no-follow open or the following half); `reopen(fd)` is `open_follow(thread-self, "fd/<fd>")`.  Whatever either returns
is an object of the handle's own mount or what a link leads to that is an entry, on that mount, of a directory on that
mount (`OnOwnMount`).  `C07Table.openFollowSpec` and `C07Table.prun_openFollowH` are declared here, in a
`namespace C07Table` block: the final-component table (`Props/C07_Table.lean`) rests on them too.
-/

open K PWorld KProc KProcOpen

variable {w : PWorld}

namespace KProcReopen

/-- the outcome of a lookup that may follow a final link, described without reference to how it was computed -/
def OnOwnMount (w : PWorld) (trailing : Bytes) (fl : Nat) (o : Fd) : Prop :=
  w.mnt o = w.mnt w.base ∨
  ∃ d l, w.mnt d = w.mnt w.base ∧ w.lookup d trailing = .ok l ∧ w.mnt l = w.mnt w.base ∧
    (hasAll fl O_NOFOLLOW = false → w.kind l = .magic → w.target l = some o) ∧
    (isLink (w.kind l) = false → o = l)

/-- the sub-paths `open_follow` is used with: a parent and a final component, no `..`, no trailing slash -/
structure SubOk (sub parent trailing : Bytes) : Prop where
  strip : Path.stripTrailingSlash sub = (sub, false)
  split : Path.pathSplit sub = .ok (parent, some trailing)
  trailing_ne : trailing ≠ []
  parent_ne : parent ≠ []
  sub_ne : sub ≠ []
  nodd : Path.dotdot ∉ Path.rawComponents sub
  nodd_parent : Path.dotdot ∉ Path.rawComponents parent

theorem prun_readlinkat_nonlink (d : Fd) (hd : 0 ≤ d) (hk : isLink (w.kind d) = false) :
    Prog.prun w (Sys.readlinkat d []) = .error (.os EINVAL) := by
  refine (prun_wrapper hd _ _).trans ?_
  rw [PWorld.answer, if_neg (fun h => h rfl), if_neg (by rw [hk]; exact Bool.false_ne_true)]
  exact prun_failWith_simp w _ _

/-- specification of `ProcfsHandle::readlink` -/
def probeSpec (w : PWorld) (bp sub : Bytes) : Except Err Bytes :=
  match openSpec w bp sub O_PATH with
  | .error e => .error (.os e)
  | .ok link => if isLink (w.kind link) = true then .ok (w.body link) else .error (.os EINVAL)

theorem prun_readlinkH (hw : PWF w) (env : Env) (base : Procfs.Base) (sub : Bytes)
    (hprobe : Prog.prun w (Procfs.intoPath base w.base) = .ok (basePath base))
    (hsub : sub ≠ []) (hdd : Path.dotdot ∉ Path.rawComponents sub) :
    Prog.prun w (Procfs.readlinkH env (handleOf w) base sub) = probeSpec w (basePath base) sub := by
  unfold Procfs.readlinkH probeSpec
  refine (prun_mbind w _ _).trans ?_
  rw [Procfs.retryFuel_eq, prun_openH hw env base sub O_PATH 63 hprobe hsub hdd (by decide)]
  cases hs : openSpec w (basePath base) sub O_PATH with
  | error e => rfl
  | ok link =>
    have h0 := openSpec_fd_nonneg hw base sub _ hdd link hs
    refine (prun_try_then w _ _).trans ?_
    by_cases hk : isLink (w.kind link) = true
    · exact (prun_readlinkat link h0 hk (link_body_short hw link hk)).trans (if_pos hk).symm
    · exact (prun_readlinkat_nonlink link h0 (by simpa using hk)).trans (if_neg hk).symm

theorem probeSpec_not_fatal (bp sub : Bytes) (e : Err) (h : probeSpec w bp sub = .error e) : e.isFatal = false := by
  unfold probeSpec at h
  generalize openSpec w bp sub O_PATH = x at h
  cases x with
  | error e' => cases h; rfl
  | ok link =>
    simp only [] at h
    split at h
    · cases h
    · cases h; rfl

end KProcReopen

namespace C07Table

open KProcReopen

/-- specification of `ProcfsHandle::open_follow(base, parent/trailing, fl)` (no trailing slash, no creation flags): the
`readlink` probe decides between the no-follow open of the whole sub-path and the following half -/
def openFollowSpec (w : PWorld) (bp sub parent trailing : Bytes) (fl : Nat) : Except Err Fd :=
  match probeSpec w bp sub with
  | .ok _ => toOutP (followSpec w bp parent trailing fl)
  | .error e =>
    if e = .os EINVAL ∨ e = .os ENOENT then toOutP (openSpec w bp sub fl)
    else if e = .os ENAMETOOLONG then toOutP (followSpec w bp parent trailing fl)
    else .error e

theorem prun_openFollowH (hw : PWF w) (env : Env) (base : Procfs.Base) (sub parent trailing : Bytes) (fl : Nat)
    (hprobe : Prog.prun w (Procfs.intoPath base w.base) = .ok (basePath base))
    (hsub : SubOk sub parent trailing)
    (hcf : (hasAny fl (O_CREAT ||| O_EXCL) || hasAll fl O_TMPFILE) = false) :
    Prog.prun w (Procfs.openFollowH env (handleOf w) base sub fl) =
      openFollowSpec w (basePath base) sub parent trailing fl := by
  have htail := prun_openFollowTail hw env base sub parent trailing fl hprobe hsub.split hsub.trailing_ne hsub.parent_ne
    hsub.nodd_parent
  have hopen := prun_openH hw env base sub fl 63 hprobe hsub.sub_ne hsub.nodd hcf
  have hrl := prun_readlinkH hw env base sub hprobe hsub.sub_ne hsub.nodd
  unfold Procfs.openFollowH openFollowSpec
  rw [hsub.strip]
  dsimp only
  rw [if_neg Bool.false_ne_true, hcf, if_neg Bool.false_ne_true]
  cases hp : probeSpec w (basePath base) sub with
  | ok body =>
    rw [hp] at hrl
    exact (prun_mbind_try_ok w hrl _).trans htail
  | error e =>
    rw [hp] at hrl
    refine (prun_mbind_try_err w hrl (probeSpec_not_fatal _ _ _ hp) _).trans ?_
    exact (apply_ite (Prog.prun w) _ _ _).trans (ite_congr rfl (fun _ => hopen) fun _ =>
      (apply_ite (Prog.prun w) _ _ _).trans (ite_congr rfl (fun _ => htail) fun _ => rfl))

end C07Table

namespace KProcReopen

open C07Table

theorem openFollowSpec_own (hw : PWF w) (bp sub parent trailing : Bytes) (fl : Nat) (o : Fd)
    (h : openFollowSpec w bp sub parent trailing fl = .ok o) : OnOwnMount w trailing fl o := by
  have hfollow : toOutP (followSpec w bp parent trailing fl) = .ok o → OnOwnMount w trailing fl o :=
    fun ht => Or.inr (follow_result_on_own_mount hw _ _ _ _ _ (toOutP_ok ht))
  unfold openFollowSpec at h
  split at h
  · exact hfollow h
  · split at h
    · exact Or.inl (openSpec_same_mnt _ _ _ _ (toOutP_ok h))
    · split at h
      · exact hfollow h
      · cases h

theorem open_follow_on_own_mount (hw : PWF w) (env : Env) (base : Procfs.Base) (sub parent trailing : Bytes) (fl : Nat)
    (hprobe : Prog.prun w (Procfs.intoPath base w.base) = .ok (basePath base))
    (hsub : SubOk sub parent trailing) (o : Fd)
    (h : Prog.prun w (Procfs.openFollowH env (handleOf w) base sub fl) = .ok o) :
    OnOwnMount w trailing fl o := by
  cases hcf : (hasAny fl (O_CREAT ||| O_EXCL) || hasAll fl O_TMPFILE) with
  | true =>
    unfold Procfs.openFollowH at h
    simp only [hsub.strip, Bool.false_eq_true, ↓reduceIte, hcf, prun_do_throw] at h
    cases h
  | false =>
    rw [prun_openFollowH hw env base sub parent trailing fl hprobe hsub hcf] at h
    exact openFollowSpec_own hw _ sub parent trailing fl o h

theorem decimal_ne_dotdot (n : Nat) : Path.decimal n ≠ Path.dotdot := by
  intro h
  have := (KOpen.decimal_mem n 46 (by rw [h]; decide)).1
  exact absurd this (by decide)

theorem subOk_fd (n : Nat) : SubOk (b!"fd/" ++ Path.decimal n) b!"fd" (Path.decimal n) where
  strip := KOpen.strip_fdpath n
  split := KOpen.pathSplit_fdpath n
  trailing_ne := KOpen.decimal_ne_nil n
  parent_ne := by decide
  sub_ne := by simp
  nodd := by
    rw [KOpen.raw_fdpath]
    intro h
    simp only [List.mem_cons, List.not_mem_nil, or_false] at h
    rcases h with h | h
    · revert h; decide
    · exact decimal_ne_dotdot n h.symm
  nodd_parent := by decide

theorem prun_reopen (env : Env) (fd : Fd) (hfd : 0 ≤ fd) (flags : Nat) (hproc : env.proc = handleOf w) :
    Prog.prun w (Procfs.reopen env fd flags) =
      if (hasAny flags (O_CREAT ||| O_EXCL) || hasAll flags O_TMPFILE) = true then .error .invalidArgument
      else if isLink (w.kind fd) = true then .error (.os ELOOP)
      else Prog.prun w (Procfs.openFollowH env (handleOf w) .threadSelf (b!"fd/" ++ Path.decimal fd.toNat)
        (clearBits flags O_NOFOLLOW)) := by
  unfold Procfs.reopen
  by_cases hcf : (hasAny flags (O_CREAT ||| O_EXCL) || hasAll flags O_TMPFILE) = true
  · rw [if_pos hcf, if_pos hcf]
    rfl
  · rw [if_neg hcf, if_neg hcf]
    refine (prun_mbind_ok w _ _ _ (prun_fstatat fd hfd)).trans ?_
    rw [isSymlink_modeOf, hproc]
    refine (apply_ite (Prog.prun w) _ _ _).trans (ite_congr rfl (fun _ => rfl) fun _ => ?_)
    exact prun_mbind_ok w _ _ _ ((prun_do_monadLiftE w _).trans (KRun.procSubpath_nonneg fd hfd))

/-- **`reopen` on any mount layout**: the descriptor that comes back is on the handle's own mount (impossible for a
file outside procfs: then the call failed) or is what the entry `fd/<n>` — an entry, on the handle's own mount, of a
directory on the handle's own mount — leads to.  Nothing that was mounted over `thread-self`, over `fd`, or over the
magic-link itself is ever returned. -/
theorem reopen_on_own_mount (hw : PWF w) (env : Env) (fd : Fd) (hfd : 0 ≤ fd) (flags : Nat)
    (hproc : env.proc = handleOf w)
    (hprobe : Prog.prun w (Procfs.intoPath .threadSelf w.base) = .ok b!"thread-self") (o : Fd)
    (h : Prog.prun w (Procfs.reopen env fd flags) = .ok o) :
    OnOwnMount w (Path.decimal fd.toNat) (clearBits flags O_NOFOLLOW) o := by
  rw [prun_reopen env fd hfd flags hproc] at h
  exact open_follow_on_own_mount hw env .threadSelf _ _ _ _ hprobe (subOk_fd fd.toNat) o
    (ite_error_ok (ite_error_ok h).2).2

def exampleWorldR : PWorld :=
  { exampleWorldT with
    kind := fun d => if d = 44 then .lnk else exampleWorldT.kind d
    child := fun d n => if d = 10 ∧ n = b!"thread-self" then some 44 else exampleWorldT.child d n
    body := fun d => if d = 44 then b!"100" else exampleWorldT.body d }

theorem exampleWorldR_wf : PWF exampleWorldR where
  base_nonneg := by decide
  base_dir := by decide
  child_nonneg := by
    intro d n c h
    simp only [exampleWorldR] at h
    split at h
    · cases h; decide
    · exact exampleWorldT_wf.child_nonneg _ _ _ h
  lnk_body := by
    intro l h
    by_cases hl : l = 44
    · subst hl; decide
    · have hk : exampleWorldR.kind l = exampleWorldT.kind l := if_neg hl
      have hb : exampleWorldR.body l = exampleWorldT.body l := if_neg hl
      rw [hb]; exact exampleWorldT_wf.lnk_body l (hk ▸ h)
  magic_body := by
    intro l h
    by_cases hl : l = 44
    · subst hl; revert h; decide
    · have hk : exampleWorldR.kind l = exampleWorldT.kind l := if_neg hl
      have hb : exampleWorldR.body l = exampleWorldT.body l := if_neg hl
      rw [hb]; exact exampleWorldT_wf.magic_body l (hk ▸ h)

theorem exampleWorldR_probe :
    Prog.prun exampleWorldR (Procfs.intoPath .threadSelf exampleWorldR.base) = .ok b!"thread-self" := by
  rfl


/-- an environment whose global handle is the handle on `exampleWorldR` -/
def envR : Env := { proc := handleOf exampleWorldR, openat2 := false, protectedSymlinks := 1 }

theorem exR_base : resolveBeneath exampleWorldR (ecfgP (O_PATH ||| O_DIRECTORY)) b!"thread-self" = .ok 14 := by
  rw [resolveBeneath_eq _ _ (by decide) (by decide)]
  show presolve exampleWorldR _ 10 [b!"thread-self"] 0 = _
  rw [p_step (by decide)]
  show presolve exampleWorldR _ 10 [b!"100"] 1 = _
  rw [p_step (by decide)]
  rfl

theorem exR_parent :
    resolveBeneath (rebase exampleWorldR 14) (ecfgP (O_PATH ||| O_DIRECTORY ||| O_NOFOLLOW)) b!"fd" = .ok 20 := by
  rw [resolveBeneath_eq _ _ (by decide) (by decide)]
  show presolve (rebase exampleWorldR 14) _ 14 [b!"fd"] 0 = _
  rw [p_step (by decide)]
  rfl

theorem exR_link :
    resolveBeneath (rebase exampleWorldR 14) (ecfgP (O_PATH ||| O_NOFOLLOW)) b!"fd/3" = .ok 22 := by
  rw [resolveBeneath_eq _ _ (by decide) (by decide)]
  show presolve (rebase exampleWorldR 14) _ 14 [b!"fd", b!"3"] 0 = _
  rw [p_step (by decide)]
  show presolve (rebase exampleWorldR 14) _ 20 [b!"3"] 0 = _
  rw [p_step (by decide)]
  rfl

/-- the probe of `open_follow(thread-self, "fd/3")` finds the magic-link 22 … -/
theorem exR_probe : probeSpec exampleWorldR b!"thread-self" b!"fd/3" = .ok b!"/proc/100/fd/pipe" := by
  unfold probeSpec
  rw [openSpec_eq exR_base, exR_link]
  rfl

/-- … and the following half returns its target, the object 50 outside the tree -/
theorem exR_follow : followSpec exampleWorldR b!"thread-self" b!"fd" b!"3" O_RDONLY = .ok 50 := by
  unfold followSpec
  rw [openSpec_eq exR_base, exR_parent]
  rfl

/-- the hypotheses of `reopen_on_own_mount` are satisfiable: on `exampleWorldR`, `reopen(3, O_RDONLY)` through the handle
on the tree succeeds and returns 50, the target of the magic-link `100/fd/3` -/
theorem exR_reopen : Prog.prun exampleWorldR (Procfs.reopen envR 3 O_RDONLY) = .ok 50 := by
  rw [prun_reopen envR 3 (by decide) O_RDONLY rfl, if_neg (by decide), if_neg (by decide)]
  show Prog.prun exampleWorldR (Procfs.openFollowH envR (handleOf exampleWorldR) .threadSelf b!"fd/3" O_RDONLY) = _
  rw [prun_openFollowH exampleWorldR_wf envR .threadSelf b!"fd/3" b!"fd" b!"3" O_RDONLY exampleWorldR_probe (subOk_fd 3)
    (by decide)]
  unfold openFollowSpec basePath
  rw [exR_probe]
  exact congrArg toOutP exR_follow

example : OnOwnMount exampleWorldR b!"3" O_RDONLY 50 :=
  reopen_on_own_mount exampleWorldR_wf envR 3 (by decide) O_RDONLY rfl exampleWorldR_probe 50 exR_reopen

end KProcReopen
