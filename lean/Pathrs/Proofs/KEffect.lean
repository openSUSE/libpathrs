import Pathrs.Proofs.Props.C01
import Pathrs.Proofs.Lookups
import Pathrs.Proofs.Safe
import Pathrs.Proofs.Parent
import Pathrs.Proofs.Exec

/-!
# Single-entry operations have exactly the effect of one `*at` call on (in-root parent, final name)

`exec μ w p` runs a program against a world that mutating calls *change*: what the kernel does with a
mutating call — its answer and the tree afterwards — is a parameter `μ : MutK` (the theorems hold for every such
kernel); every other call is answered by the (then current) world as in `Prog.run`.
-/

open K KRun World KSim KSpec

namespace KEffect

/-- calls that change the tree -/
def mutates : Call → Bool
  | .mkdirat .. | .mknodat .. | .unlinkat .. | .symlinkat .. | .linkat .. | .renameat .. | .renameat2 .. => true
  | .openat _ _ fl _ => hasAll fl O_CREAT
  | _ => false

/-- the kernel's treatment of mutating calls -/
structure MutK where
  ans : World → Call → Resp
  eff : World → Call → World

def exec {α : Type} (μ : MutK) (w : World) : Prog α → World × α
  | .ret a => (w, a)
  | .call c k => if mutates c then exec μ (μ.eff w c) (k (μ.ans w c)) else exec μ w (k (w.answer c))

/-- the result of a wrapper whose call the kernel answered with `r` -/
def unitOut (r : Resp) (site : String) : Except Err Unit :=
  match r with
  | .unit => .ok ()
  | .err e => .error (.os e)
  | _ => .error (.badResp site)

/-! ## Programs without mutating calls (they run as on the immutable world: `exec_nm`) -/

/-- `p` never makes a mutating call, whatever it is answered -/
abbrev NM {α : Type} (p : Prog α) : Prop := Prog.AllCalls' (fun c => mutates c = false) p

namespace NM

theorem call {α : Type} {c : Call} {k : Resp → Prog α} (hc : mutates c = false) (hk : ∀ r, NM (k r)) :
    NM (Prog.call c k) := ⟨hc, hk⟩

theorem ret {α : Type} (a : α) : NM (Prog.ret a) := trivial

theorem pure {α : Type} (a : α) : NM (Pure.pure a : M α) := trivial

theorem throw {α : Type} (e : Err) : NM (MonadExcept.throw e : M α) := trivial

theorem ofExcept {α : Type} (x : Except Err α) : NM (M.ofExcept x) := by
  cases x <;> exact trivial

theorem mbind {α β : Type} {p : M α} {f : α → M β} (hp : NM p) (hf : ∀ a, NM (f a)) : NM (M.bind' p f) :=
  Prog.AllCalls'.mbind hp hf

theorem lift {α : Type} {p : Prog α} (hp : NM p) : NM (M.lift p) := Prog.AllCalls'.lift hp

theorem isOk {α : Type} {p : M α} (hp : NM p) : NM (M.isOk p) := Prog.AllCalls'.isOk hp

theorem onErr {α : Type} {p : M α} {c : Prog Unit} (hp : NM p) (hc : NM c) : NM (M.onErr p c) :=
  Sat.allCalls' (hp.satM.onErr (allCalls'_iff_sat.mp hc)) fun _ h => h

end NM

theorem liftM_prog {α : Type} (p : Prog α) : (liftM p : M α) = M.lift p := rfl
theorem monadLift_prog {α : Type} (p : Prog α) : (monadLift p : M α) = M.lift p := rfl

/-- the lookup layer makes no mutating call: its `openat`s carry no `O_CREAT` -/
theorem LookupCall.noMut {b : Bool} {I : Fd → Prop} {c : Call} (h : LookupCall b true I c) : mutates c = false := by
  -- by the clauses of `mutates`: the seven entry-changing calls are none of the lookup's, then `openat`, then the rest
  fun_cases mutates c with
  | case8 => exact h.1 rfl
  | case9 => rfl
  | _ => exact h.elim

theorem nmPass : Pass AnyAnswer Top (fun c => mutates c = false) :=
  Pass.any ⟨rfl, rfl, fun _ _ => rfl, fun _ _ => rfl, fun _ => rfl, fun _ => rfl⟩

theorem close_nm (fd : Fd) : NM (Sys.close fd) := allCalls'_iff_sat.mpr (Sys.close_sat nmPass fd)

theorem closeAll_nm (fds : List Fd) : NM (Sys.closeAll fds) := allCalls'_iff_sat.mpr (Sys.closeAll_sat nmPass fds)

theorem failWith_nm {α : Type} (fds : List Fd) (e : Nat) : NM (Sys.failWith (α := α) fds e) :=
  Sat.allCalls' (Sys.failWith_sat nmPass fds e (Q := Top)) fun _ h => h

theorem new_nm (env : Env) : NM (Procfs.new env) :=
  Sat.allCalls' (Procfs.new_sat (b := false) lookupAny env) fun _ => LookupCall.noMut

/-- `Root::resolve`, on either backend, never makes a mutating call. -/
theorem resolve_noMut (env : Env) (r : Resolver) (root : Fd) (path : Bytes) (nofollow : Bool) :
    Prog.AllCalls' (fun c => mutates c = false) (Resolver.resolve env r root path nofollow) :=
  Sat.allCalls' (Resolver.resolve_sat (b := false) lookupAny r path nofollow trivial trivial) fun _ =>
    LookupCall.noMut

/-! ## `exec` through the combinators -/

section ExecLemmas

variable {α β : Type} (μ : MutK) (w : World)

theorem exec_nm {p : Prog α} (hp : NM p) : exec μ w p = (w, p.run w) := by
  induction p with
  | ret a => rfl
  | call c k ih =>
    have hc : mutates c = false := hp.1
    simp only [exec, hc, Bool.false_eq_true, ↓reduceIte, Prog.run]
    exact ih _ (hp.2 _)

def step (w : World) (c : Call) : World × Resp := if mutates c then (μ.eff w c, μ.ans w c) else (w, w.answer c)

theorem exec_eq (p : Prog α) : exec μ w p = Prog.runState (step μ) p w := by
  induction p generalizing w with
  | ret a => rfl
  | call c k ih =>
    unfold exec Prog.runState step
    split <;> exact ih _ _

theorem exec_bind (p : Prog α) (f : α → Prog β) :
    exec μ w (Prog.bind p f) = exec μ (exec μ w p).1 (f (exec μ w p).2) := by
  simp only [exec_eq]
  exact Prog.runState_bind p f w

theorem exec_mbind (p : M α) (f : α → M β) :
    exec μ w (M.bind' p f) = match exec μ w p with
      | (w', .ok a) => exec μ w' (f a)
      | (w', .error e) => (w', .error e) := by
  refine (exec_bind μ w (α := Except Err α) p _).trans ?_
  obtain ⟨w', _ | _⟩ := exec μ w p <;> rfl

/-- `let r ← try' q; fin r` where `fin` only cleans up and re-raises: the effect and result of `q` -/
theorem exec_try_then (q : M α) (fin : Except Err α → M α) (hfin : ∀ w' r, exec μ w' (fin r) = (w', r)) :
    exec μ w (M.bind' (M.try' q) fin) = exec μ w q :=
  (exec_eq ..).trans <| (Prog.runState_try_then q fin fun w' r => (exec_eq ..).symm.trans (hfin w' r)).trans
    (exec_eq ..).symm

theorem exec_close_then (fd : Fd) (p : M α) :
    exec μ w (M.bind' (M.lift (Sys.close fd)) fun _ => p) = exec μ w p := rfl

theorem exec_closeAll_then (fds : List Fd) (p : M α) :
    exec μ w (M.bind' (M.lift (Sys.closeAll fds)) fun _ => p) = exec μ w p := by
  rw [exec_mbind, exec_nm μ w (NM.lift (closeAll_nm fds)), run_lift]

theorem exec_ofExcept (r : Except Err α) : exec μ w (M.ofExcept r) = (w, r) := by
  cases r <;> rfl

theorem exec_mcall_mut (c : Call) (hc : mutates c = true) (k : Resp → M α) :
    exec μ w (M.bind' (M.call c) k) = exec μ (μ.eff w c) (k (μ.ans w c)) := by
  show exec μ w (Prog.call c fun r => _) = _
  rw [exec, if_pos hc]
  rfl

theorem exec_failWith (fds : List Fd) (e : Nat) :
    exec μ w (Sys.failWith (α := α) fds e) = (w, .error (.os e)) := by
  rw [exec_nm μ w (failWith_nm fds e), run_failWith]

theorem exec_unitCall (c : Call) (hc : mutates c = true) (fds : List Fd) (site : String) :
    exec μ w (Sys.unitCall c fds site) = (μ.eff w c, unitOut (μ.ans w c) site) := by
  unfold Sys.unitCall
  rw [M.bind_def, exec_mcall_mut μ w c hc]
  cases μ.ans w c with
  | unit => rfl
  | err e => exact exec_failWith μ _ fds e
  | fd n => rfl
  | bytes b => rfl
  | nums l => rfl
  | fin => rfl

theorem exec_hotfix {d : Fd} (hd : 0 ≤ d) (p : M α) :
    exec μ w (M.bind' (M.ofExcept (Sys.hotfix d)) fun _ => p) = exec μ w p :=
  congrArg (exec μ w) (Sys.hotfix_then hd p)

end ExecLemmas

/-! ## The operations on a world

`exec_withParent` and `exec_rename` say what the operations do on *any* world, as a decision over the outcome of the
parent lookups there: a lookup makes no mutating call, so it runs as under `Prog.run` and leaves the world alone.
`run_resolveParent` says what that outcome is on a well-formed world: the specification's resolution of the parent
part.  Each wrapper that makes a mutating call `c` leaves `μ.eff w c` and returns its translation of `μ.ans w c`.
The effect theorems (exactly one mutating call on `(d, name)`: `C14_effect_*` in `Props/C14.lean`) and the `*_frame_*`
theorems below (the frame conditions DESIGN §8 C14 means by "failing lookups, trailing slashes, unsplittable paths
change nothing") are the leaves of those two decisions.
-/

/-! ### the parent lookup, `Root.withParent`, and the frame of `remove_file`/`remove_dir` -/

theorem resolveParent_nm (env : Env) (root : Root) (path : Bytes) : NM (Root.resolveParent env root path) :=
  NM.mbind (NM.ofExcept _) fun _ => NM.mbind (resolve_noMut ..) fun _ => NM.pure _

variable {w : World}

theorem resolved_nonneg (hw : w.WF) {c : World.Cfg} {path : Bytes} {d : Fd}
    (h : resolveInRoot w c path = .ok d) : 0 ≤ d := by
  obtain ⟨p, hp⟩ := C01_inside_root hw c path d h
  exact tree_nonneg (hw.path_tree d p hp)

theorem run_resolveParent (hw : w.WF) (r : Resolver) {path parent : Bytes} {name : Option Bytes}
    (hnul : parent.contains 0 = false) (hsplit : Path.pathSplit path = .ok (parent, name)) :
    (Root.resolveParent (kenv w) { fd := w.root, resolver := r } path).run w =
      match resolveInRoot w (if r.emulated then ecfg r.rflags false else kcfgK w r.rflags false) parent with
      | .ok d => .ok (d, name)
      | .error e => .error (.os e) := by
  unfold Root.resolveParent
  simp only [M.bind_def, run_mbind, run_do_liftE, hsplit, C01_any_backend hw r parent hnul false]
  cases resolveInRoot w _ parent <;> rfl

theorem run_resolveParent_split (env : Env) (root : Root) {path : Bytes} {e : Err}
    (hsplit : Path.pathSplit path = .error e) : (Root.resolveParent env root path).run w = .error e := by
  unfold Root.resolveParent
  simp only [M.bind_def, run_mbind, run_do_liftE, hsplit]

theorem exec_withParent {α : Type} (μ : MutK) (env : Env) (root : Root) (path : Bytes) (body : Fd → Bytes → M α) :
    exec μ w (Root.withParent env root path body) =
      match (Root.resolveParent env root path).run w with
      | .error e => (w, .error e)
      | .ok (_, none) => (w, .error .invalidArgument)
      | .ok (d, some name) => exec μ w (body d name) := by
  unfold Root.withParent
  simp only [M.bind_def, liftM_prog]
  rw [exec_mbind, exec_nm μ w (resolveParent_nm ..)]
  cases (Root.resolveParent env root path).run w with
  | error e => rfl
  | ok x =>
    obtain ⟨d, _ | name⟩ := x
    · rfl
    · exact exec_try_then μ w _ _ fun _ _ => by rw [exec_close_then, exec_ofExcept]

theorem exec_unlinkat (μ : MutK) (d : Fd) (hd : 0 ≤ d) (name : Bytes) (fl : Nat) :
    exec μ w (Sys.unlinkat d name fl) =
      (μ.eff w (.unlinkat d name fl), unitOut (μ.ans w (.unlinkat d name fl)) "unlinkat") :=
  (exec_hotfix μ w hd _).trans (exec_unitCall μ w _ rfl _ _)

theorem removeInode_frame_lookup (μ : MutK) (hw : w.WF) (r : Resolver) (path parent : Bytes) (name : Option Bytes)
    (hnul : parent.contains 0 = false) (isDir : Bool) (e : Nat)
    (hsplit : Path.pathSplit path = .ok (parent, name))
    (hres : resolveInRoot w (if r.emulated then ecfg r.rflags false else kcfgK w r.rflags false) parent = .error e) :
    exec μ w (Root.removeInode (kenv w) { fd := w.root, resolver := r } path isDir) = (w, .error (.os e)) := by
  rw [Root.removeInode_eq, exec_withParent, run_resolveParent hw r hnul hsplit, hres]

theorem removeInode_frame_split (μ : MutK) (env : Env) (root : Root) (path : Bytes) (isDir : Bool) (e : Err)
    (hsplit : Path.pathSplit path = .error e) :
    exec μ w (Root.removeInode env root path isDir) = (w, .error e) := by
  rw [Root.removeInode_eq, exec_withParent, run_resolveParent_split env root hsplit]


/-! ### `create` -/

/-- the one mutating call of `Root::create` on `(d, name)` and the wrapper that makes it, for the inode
types that need no second lookup (`Root.createCall`) -/
def createSysCall (d : Fd) (name : Bytes) : InodeType → Option (Call × String)
  | .file perm => some (.mknodat d name (S_IFREG ||| Root.clearFmt perm) 0, "mknodat")
  | .directory perm => some (.mkdirat d name (Root.clearFmt perm), "mkdirat")
  | .symlink target => some (.symlinkat target d name, "symlinkat")
  | .hardlink _ => none
  | .fifo perm => some (.mknodat d name (S_IFIFO ||| Root.clearFmt perm) 0, "mknodat")
  | .charDev perm dev => some (.mknodat d name (S_IFCHR ||| Root.clearFmt perm) dev, "mknodat")
  | .blockDev perm dev => some (.mknodat d name (S_IFBLK ||| Root.clearFmt perm) dev, "mknodat")

theorem exec_createCall (μ : MutK) (env : Env) (root : Root) (d : Fd) (hd : 0 ≤ d) (name : Bytes)
    (ty : InodeType) (c : Call) (site : String) (hc : createSysCall d name ty = some (c, site)) :
    exec μ w (Root.createCall env root d name ty) = (μ.eff w c, unitOut (μ.ans w c) site) := by
  cases ty <;> cases hc <;> exact (exec_hotfix μ w hd _).trans (exec_unitCall μ w _ rfl _ _)

theorem create_frame_lookup (μ : MutK) (hw : w.WF) (r : Resolver) (path parent : Bytes) (name : Option Bytes)
    (hnul : parent.contains 0 = false) (ty : InodeType) (e : Nat)
    (hsplit : Path.pathSplit path = .ok (parent, name))
    (hres : resolveInRoot w (if r.emulated then ecfg r.rflags false else kcfgK w r.rflags false) parent = .error e) :
    exec μ w (Root.create (kenv w) { fd := w.root, resolver := r } path ty) = (w, .error (.os e)) := by
  rw [Root.create_eq, exec_withParent, run_resolveParent hw r hnul hsplit, hres]

theorem create_frame_slash (μ : MutK) (hw : w.WF) (r : Resolver) (path parent : Bytes)
    (hnul : parent.contains 0 = false) (ty : InodeType) (d : Fd)
    (hsplit : Path.pathSplit path = .ok (parent, none))
    (hres : resolveInRoot w (if r.emulated then ecfg r.rflags false else kcfgK w r.rflags false) parent = .ok d) :
    exec μ w (Root.create (kenv w) { fd := w.root, resolver := r } path ty) = (w, .error .invalidArgument) := by
  rw [Root.create_eq, exec_withParent, run_resolveParent hw r hnul hsplit, hres]

theorem create_frame_split (μ : MutK) (env : Env) (root : Root) (path : Bytes) (ty : InodeType) (e : Err)
    (hsplit : Path.pathSplit path = .error e) :
    exec μ w (Root.create env root path ty) = (w, .error e) := by
  rw [Root.create_eq, exec_withParent, run_resolveParent_split env root hsplit]

/-! ### `create_file` -/

/-- the result of a descriptor-returning wrapper whose call the kernel answered with `r` -/
def fdOut (r : Resp) (site : String) : Except Err Fd :=
  match r with
  | .fd n => .ok n
  | .err e => .error (.os e)
  | _ => .error (.badResp site)

/-- what `Sys.openat` really passes for `create_file` -/
def createFileCall (d : Fd) (name : Bytes) (flags perm : Nat) : Call :=
  .openat d name (flags ||| O_CREAT ||| O_NOFOLLOW ||| O_CLOEXEC ||| O_NOCTTY) perm

theorem createFileCall_mutates (d : Fd) (name : Bytes) (flags perm : Nat) :
    mutates (createFileCall d name flags perm) = true := by
  show hasAll (flags ||| O_CREAT ||| O_NOFOLLOW ||| O_CLOEXEC ||| O_NOCTTY) O_CREAT = true
  simp only [hasAll_creat_or]
  have : hasAll O_CREAT O_CREAT = true := by decide
  simp only [this, Bool.or_true, Bool.true_or]

theorem exec_openat_creat (μ : MutK) (d : Fd) (hd : 0 ≤ d) (name : Bytes) (flags perm : Nat) :
    exec μ w (Sys.openat d name (flags ||| O_CREAT) perm) =
      (μ.eff w (createFileCall d name flags perm), fdOut (μ.ans w (createFileCall d name flags perm)) "openat") := by
  refine (exec_hotfix μ w hd _).trans ((exec_mcall_mut μ w _ (createFileCall_mutates d name flags perm) _).trans ?_)
  cases μ.ans w (createFileCall d name flags perm) with
  | fd n => rfl
  | err e => exact exec_failWith μ _ [d] e
  | unit => rfl
  | bytes b => rfl
  | nums l => rfl
  | fin => rfl

theorem createFile_frame_lookup (μ : MutK) (hw : w.WF) (r : Resolver) (path parent : Bytes) (name : Option Bytes)
    (hnul : parent.contains 0 = false) (flags perm : Nat) (e : Nat)
    (hsplit : Path.pathSplit path = .ok (parent, name))
    (hres : resolveInRoot w (if r.emulated then ecfg r.rflags false else kcfgK w r.rflags false) parent = .error e) :
    exec μ w (Root.createFile (kenv w) { fd := w.root, resolver := r } path flags perm) = (w, .error (.os e)) := by
  rw [Root.createFile_eq, exec_withParent, run_resolveParent hw r hnul hsplit, hres]

theorem createFile_frame_slash (μ : MutK) (hw : w.WF) (r : Resolver) (path parent : Bytes)
    (hnul : parent.contains 0 = false) (flags perm : Nat) (d : Fd)
    (hsplit : Path.pathSplit path = .ok (parent, none))
    (hres : resolveInRoot w (if r.emulated then ecfg r.rflags false else kcfgK w r.rflags false) parent = .ok d) :
    exec μ w (Root.createFile (kenv w) { fd := w.root, resolver := r } path flags perm) =
      (w, .error .invalidArgument) := by
  rw [Root.createFile_eq, exec_withParent, run_resolveParent hw r hnul hsplit, hres]

theorem createFile_frame_split (μ : MutK) (env : Env) (root : Root) (path : Bytes) (flags perm : Nat) (e : Err)
    (hsplit : Path.pathSplit path = .error e) :
    exec μ w (Root.createFile env root path flags perm) = (w, .error e) := by
  rw [Root.createFile_eq, exec_withParent, run_resolveParent_split env root hsplit]


/-! ### `rename` -/

/-- the one mutating call of `Root::rename`: `Sys.renameat2` makes a plain `renameat` when no flags are given -/
def renameSysCall (d1 : Fd) (n1 : Bytes) (d2 : Fd) (n2 : Bytes) (flags : Nat) : Call :=
  if flags = 0 then .renameat d1 n1 d2 n2 else .renameat2 d1 n1 d2 n2 flags

def renameSite (flags : Nat) : String := if flags = 0 then "renameat" else "renameat2"

theorem exec_renameat2 (μ : MutK) (d1 d2 : Fd) (h1 : 0 ≤ d1) (h2 : 0 ≤ d2) (n1 n2 : Bytes) (flags : Nat) :
    exec μ w (Sys.renameat2 d1 n1 d2 n2 flags) =
      (μ.eff w (renameSysCall d1 n1 d2 n2 flags),
       unitOut (μ.ans w (renameSysCall d1 n1 d2 n2 flags)) (renameSite flags)) := by
  unfold Sys.renameat2 renameSysCall renameSite
  split <;> exact (exec_hotfix μ w h1 _).trans ((exec_hotfix μ w h2 _).trans (exec_unitCall μ w _ rfl _ _))

theorem exec_rename (μ : MutK) (env : Env) (root : Root) (src dst : Bytes) (flags : Nat) :
    exec μ w (Root.rename env root src dst flags) =
      match (Root.resolveParent env root src).run w with
      | .error e => (w, .error e)
      | .ok (_, none) => (w, .error .invalidArgument)
      | .ok (d1, some n1) =>
        match (Root.resolveParent env root dst).run w with
        | .error e => (w, .error e)
        | .ok (_, none) => (w, .error .invalidArgument)
        | .ok (d2, some n2) => exec μ w (Sys.renameat2 d1 n1 d2 n2 flags) := by
  unfold Root.rename
  simp only [M.bind_def, liftM_prog]
  rw [exec_mbind, exec_nm μ w (resolveParent_nm ..)]
  cases (Root.resolveParent env root src).run w with
  | error e => rfl
  | ok x =>
    obtain ⟨d1, _ | n1⟩ := x
    · rfl
    · dsimp only
      rw [exec_mbind, exec_nm μ w ((resolveParent_nm ..).onErr (close_nm d1)), run_onErr]
      cases (Root.resolveParent env root dst).run w with
      | error e => rfl
      | ok y =>
        obtain ⟨d2, _ | n2⟩ := y
        · exact exec_closeAll_then μ w _ _
        · exact exec_try_then μ w _ _ fun _ _ => by rw [exec_close_then, exec_close_then, exec_ofExcept]

theorem rename_frame_src_split (μ : MutK) (env : Env) (root : Root) (src dst : Bytes) (flags : Nat) (e : Err)
    (hsplit1 : Path.pathSplit src = .error e) :
    exec μ w (Root.rename env root src dst flags) = (w, .error e) := by
  rw [exec_rename, run_resolveParent_split env root hsplit1]

theorem rename_frame_src_lookup (μ : MutK) (hw : w.WF) (r : Resolver) (src dst p1 : Bytes) (n1 : Option Bytes)
    (hnul1 : p1.contains 0 = false) (flags : Nat) (e : Nat)
    (hsplit1 : Path.pathSplit src = .ok (p1, n1))
    (hres1 : resolveInRoot w (if r.emulated then ecfg r.rflags false else kcfgK w r.rflags false) p1 = .error e) :
    exec μ w (Root.rename (kenv w) { fd := w.root, resolver := r } src dst flags) = (w, .error (.os e)) := by
  rw [exec_rename, run_resolveParent hw r hnul1 hsplit1, hres1]

theorem rename_frame_src_slash (μ : MutK) (hw : w.WF) (r : Resolver) (src dst p1 : Bytes)
    (hnul1 : p1.contains 0 = false) (flags : Nat) (d1 : Fd)
    (hsplit1 : Path.pathSplit src = .ok (p1, none))
    (hres1 : resolveInRoot w (if r.emulated then ecfg r.rflags false else kcfgK w r.rflags false) p1 = .ok d1) :
    exec μ w (Root.rename (kenv w) { fd := w.root, resolver := r } src dst flags) = (w, .error .invalidArgument) := by
  rw [exec_rename, run_resolveParent hw r hnul1 hsplit1, hres1]

theorem rename_frame_dst_split (μ : MutK) (hw : w.WF) (r : Resolver) (src dst p1 n1 : Bytes)
    (hnul1 : p1.contains 0 = false) (flags : Nat) (d1 : Fd) (e : Err)
    (hsplit1 : Path.pathSplit src = .ok (p1, some n1))
    (hres1 : resolveInRoot w (if r.emulated then ecfg r.rflags false else kcfgK w r.rflags false) p1 = .ok d1)
    (hsplit2 : Path.pathSplit dst = .error e) :
    exec μ w (Root.rename (kenv w) { fd := w.root, resolver := r } src dst flags) = (w, .error e) := by
  rw [exec_rename, run_resolveParent hw r hnul1 hsplit1, hres1, run_resolveParent_split _ _ hsplit2]

theorem rename_frame_dst_lookup (μ : MutK) (hw : w.WF) (r : Resolver) (src dst p1 n1 p2 : Bytes) (n2 : Option Bytes)
    (hnul1 : p1.contains 0 = false) (hnul2 : p2.contains 0 = false) (flags : Nat) (d1 : Fd) (e : Nat)
    (hsplit1 : Path.pathSplit src = .ok (p1, some n1))
    (hres1 : resolveInRoot w (if r.emulated then ecfg r.rflags false else kcfgK w r.rflags false) p1 = .ok d1)
    (hsplit2 : Path.pathSplit dst = .ok (p2, n2))
    (hres2 : resolveInRoot w (if r.emulated then ecfg r.rflags false else kcfgK w r.rflags false) p2 = .error e) :
    exec μ w (Root.rename (kenv w) { fd := w.root, resolver := r } src dst flags) = (w, .error (.os e)) := by
  rw [exec_rename, run_resolveParent hw r hnul1 hsplit1, hres1, run_resolveParent hw r hnul2 hsplit2, hres2]

theorem rename_frame_dst_slash (μ : MutK) (hw : w.WF) (r : Resolver) (src dst p1 n1 p2 : Bytes)
    (hnul1 : p1.contains 0 = false) (hnul2 : p2.contains 0 = false) (flags : Nat) (d1 d2 : Fd)
    (hsplit1 : Path.pathSplit src = .ok (p1, some n1))
    (hres1 : resolveInRoot w (if r.emulated then ecfg r.rflags false else kcfgK w r.rflags false) p1 = .ok d1)
    (hsplit2 : Path.pathSplit dst = .ok (p2, none))
    (hres2 : resolveInRoot w (if r.emulated then ecfg r.rflags false else kcfgK w r.rflags false) p2 = .ok d2) :
    exec μ w (Root.rename (kenv w) { fd := w.root, resolver := r } src dst flags) = (w, .error .invalidArgument) := by
  rw [exec_rename, run_resolveParent hw r hnul1 hsplit1, hres1, run_resolveParent hw r hnul2 hsplit2, hres2]

/-! ### `create` of a hard link: a second parent lookup (of the link target), then one `linkat` -/

theorem exec_linkat (μ : MutK) (d1 d2 : Fd) (h1 : 0 ≤ d1) (h2 : 0 ≤ d2) (n1 n2 : Bytes) (flags : Nat) :
    exec μ w (Sys.linkat d1 n1 d2 n2 flags) =
      (μ.eff w (.linkat d1 n1 d2 n2 flags), unitOut (μ.ans w (.linkat d1 n1 d2 n2 flags)) "linkat") :=
  (exec_hotfix μ w h1 _).trans ((exec_hotfix μ w h2 _).trans (exec_unitCall μ w _ rfl _ _))

/-- frame for the hard link: whatever happens to the lookup of the link target's parent, if it does not
yield `(dt, some tname)` the world is unchanged -/
theorem create_hardlink_frame (μ : MutK) (hw : w.WF) (r : Resolver) (path parent name target : Bytes)
    (hnul : parent.contains 0 = false) (d : Fd) (e : Err)
    (hsplit : Path.pathSplit path = .ok (parent, some name))
    (hres : resolveInRoot w (if r.emulated then ecfg r.rflags false else kcfgK w r.rflags false) parent = .ok d)
    (ht : (∃ tparent tname e', Path.pathSplit target = .ok (tparent, tname) ∧ tparent.contains 0 = false ∧
            resolveInRoot w (if r.emulated then ecfg r.rflags false else kcfgK w r.rflags false) tparent = .error e' ∧
            e = .os e') ∨
          (∃ tparent dt, Path.pathSplit target = .ok (tparent, none) ∧ tparent.contains 0 = false ∧
            resolveInRoot w (if r.emulated then ecfg r.rflags false else kcfgK w r.rflags false) tparent = .ok dt ∧
            e = .invalidArgument) ∨
          Path.pathSplit target = .error e) :
    exec μ w (Root.create (kenv w) { fd := w.root, resolver := r } path (.hardlink target)) = (w, .error e) := by
  rw [Root.create_eq, exec_withParent, run_resolveParent hw r hnul hsplit, hres]
  dsimp only
  rw [Root.createCall_hardlink, exec_withParent]
  rcases ht with ⟨tp, tn, e', hs, hn, hr, rfl⟩ | ⟨tp, dt, hs, hn, hr, rfl⟩ | hs
  · rw [run_resolveParent hw r hn hs, hr]
  · rw [run_resolveParent hw r hn hs, hr]
  · rw [run_resolveParent_split _ _ hs]

end KEffect
