import Pathrs.Proofs.Exec

/-!
# Rely/guarantee for the creating loop of `mkdir_all` (C12)

`KS` is a kernel with state, as far as the loop talks to it: entries, kinds, an id allocator.  Other callers of
`mkdir_all` may step in before every call of the loop and after the last; all that is assumed of them is `AddsDirs`:
what exists stays, what appears is a directory.  A run is a trace of the loop (`RunsT`, Runs.lean) that is `Valid`:
every answer is `KS.answer` in the state the others left.  `mkdirLoop_converges`: on every such run the loop succeeds
and returns the end of the chain.
-/

open K

/-! ## A mutable kernel, as far as the creating loop talks to it -/

/-- directory entries and kinds; descriptors are identified with objects (`openat` returns the
object's id); ids `≥ next` are unused -/
structure KS where
  child : Fd → Bytes → Option Fd
  isDir : Fd → Bool
  next : Fd

namespace KS

/-- only `mkdirat` and `openat` look at the state; the diagnostic reads get one fixed answer each (which one does not
matter: `failWith_kernel`), every other call `ENOSYS` -/
def answer (w : KS) : Call → Resp
  | .mkdirat d n _ =>
      if w.isDir d = false then .err ENOTDIR
      else match w.child d n with
        | some _ => .err EEXIST
        | none => .unit
  | .openat d n _ _ =>
      -- the only opens of the loop are `O_NOFOLLOW|O_DIRECTORY`
      match w.child d n with
      | some c => if w.isDir c then .fd c else .err ENOTDIR
      | none => .err ENOENT
  | .close _ => .unit
  | .gettid => .nums [1]
  | .fstatat _ _ _ => .nums [S_IFLNK ||| 0o777, 0, 3, 5]
  | .readlinkAbs _ => .bytes b!"/"
  | _ => .err ENOSYS

def effect (w : KS) : Call → KS
  | .mkdirat d n _ =>
      if w.isDir d = false then w
      else match w.child d n with
        | some _ => w
        | none =>
          { child := fun d' n' => if d' = d ∧ n' = n then some w.next else w.child d' n'
            isDir := fun i => if i = w.next then true else w.isDir i
            next := w.next + 1 }
  | _ => w

/-- the mode does not enter the state: this is why `chainAdd` (MkExact.lean) may say `mkdirat … 0` -/
theorem effect_mkdirat_mode (w : KS) (d : Fd) (n : Bytes) (m : Nat) :
    w.effect (.mkdirat d n m) = w.effect (.mkdirat d n 0) := rfl

theorem answer_mkdirat_none {w : KS} {d : Fd} {n : Bytes} (m : Nat) (hd : w.isDir d = true)
    (h : w.child d n = none) : w.answer (.mkdirat d n m) = .unit := by
  simp only [KS.answer, hd, Bool.true_eq_false, ↓reduceIte, h]

theorem answer_mkdirat_some {w : KS} {d : Fd} {n : Bytes} {c : Fd} (m : Nat) (hd : w.isDir d = true)
    (h : w.child d n = some c) : w.answer (.mkdirat d n m) = .err EEXIST := by
  simp only [KS.answer, hd, Bool.true_eq_false, ↓reduceIte, h]

theorem effect_mkdirat_some {w : KS} {d : Fd} {n : Bytes} {c : Fd} (m : Nat)
    (h : w.child d n = some c) : w.effect (.mkdirat d n m) = w := by
  simp only [KS.effect, h, ite_self]

theorem effect_mkdirat_child {w : KS} {d : Fd} {n : Bytes} (m : Nat) (hd : w.isDir d = true)
    (h : w.child d n = none) : (w.effect (.mkdirat d n m)).child d n = some w.next := by
  simp only [KS.effect, hd, Bool.true_eq_false, ↓reduceIte, h, and_self]

theorem effect_mkdirat_isDir {w : KS} {d : Fd} {n : Bytes} (m : Nat) (hd : w.isDir d = true)
    (h : w.child d n = none) : (w.effect (.mkdirat d n m)).isDir w.next = true := by
  simp only [KS.effect, hd, Bool.true_eq_false, ↓reduceIte, h]

theorem effect_mkdirat_next {w : KS} {d : Fd} {n : Bytes} (m : Nat) (hd : w.isDir d = true)
    (h : w.child d n = none) : (w.effect (.mkdirat d n m)).next = w.next + 1 := by
  simp only [KS.effect, hd, Bool.true_eq_false, ↓reduceIte, h]

end KS

/-- rely/guarantee relation: only directories are added (entries and kinds are kept, ids stay allocated) -/
structure AddsDirs (w w' : KS) : Prop where
  keep    : ∀ d n c, w.child d n = some c → w'.child d n = some c
  kinds   : ∀ i, i < w.next → w'.isDir i = w.isDir i
  newDirs : ∀ d n c, w.child d n = none → w'.child d n = some c → w'.isDir c = true ∧ w.next ≤ c
  mono    : w.next ≤ w'.next

/-- what makes `w.next` fresh: every id in use is below it, so the directory a `mkdirat` creates is empty and is
nobody else's child -/
structure Alloc (w : KS) : Prop where
  bound : ∀ d n c, w.child d n = some c → c < w.next
  unused : ∀ d n, w.next ≤ d → w.child d n = none
  dirs : ∀ i, w.isDir i = true → i < w.next
  pos : ∀ d n c, w.child d n = some c → 0 ≤ c
  next_pos : 0 ≤ w.next

theorem AddsDirs.refl (w : KS) : AddsDirs w w :=
  ⟨fun _ _ _ h => h, fun _ _ => rfl, fun _ _ _ h h' => by simp [h] at h', Int.le_refl _⟩

theorem AddsDirs.trans {a b c : KS} (hb : Alloc b) (h1 : AddsDirs a b) (h2 : AddsDirs b c) : AddsDirs a c where
  keep d n x h := h2.keep _ _ _ (h1.keep _ _ _ h)
  kinds i hi := by rw [h2.kinds i (Int.lt_of_lt_of_le hi h1.mono), h1.kinds i hi]
  newDirs d n x h h' := by
    cases hb' : b.child d n with
    | none =>
      have := h2.newDirs d n x hb' h'
      exact ⟨this.1, Int.le_trans h1.mono this.2⟩
    | some y =>
      have hy := h2.keep _ _ _ hb'
      have hxy : x = y := by rw [hy] at h'; exact (Option.some.inj h').symm
      subst hxy
      have := h1.newDirs d n x h hb'
      exact ⟨by rw [h2.kinds x (hb.bound _ _ _ hb')]; exact this.1, this.2⟩
  mono := Int.le_trans h1.mono h2.mono

theorem int_lt_of_succ_le {a b : Int} (h : a + 1 ≤ b) : a < b := by omega

/-- **guarantee**: whatever call the program makes, its effect only adds a directory, and the
allocator invariant is kept -/
theorem effect_guarantee (w : KS) (ha : Alloc w) (c : Call) : AddsDirs w (w.effect c) ∧ Alloc (w.effect c) := by
  -- by the clauses of `effect`: a `mkdirat` in what is no directory, of an entry that exists, of a new one; any other call
  fun_cases KS.effect w c with
  | case1 | case2 | case4 => exact ⟨AddsDirs.refl _, ha⟩
  | case3 d n m hd hc =>
    have hdn : d < w.next := ha.dirs d (Bool.of_not_eq_false hd)
    -- an entry of the new tree is an old one or the new directory
    have entry : ∀ {d' n' x}, (if d' = d ∧ n' = n then some w.next else w.child d' n') = some x →
        w.child d' n' = some x ∨ x = w.next := fun h => by
      split at h
      · exact .inr (Option.some.inj h).symm
      · exact .inl h
    refine ⟨⟨?_, ?_, ?_, ?_⟩, ⟨?_, ?_, ?_, ?_, ?_⟩⟩
    · intro d' n' c h
      by_cases e : d' = d ∧ n' = n
      · obtain ⟨rfl, rfl⟩ := e; rw [hc] at h; cases h
      · exact (if_neg e).trans h
    · exact fun i hi => if_neg (Int.ne_of_lt hi)
    · intro d' n' c h h'
      rcases entry h' with h' | rfl
      · rw [h] at h'; cases h'
      · exact ⟨if_pos rfl, Int.le_refl _⟩
    · exact Int.le_of_lt (Int.lt_succ _)
    · intro d' n' c h
      exact (entry h).elim (fun h => Int.lt_add_one_of_le (Int.le_of_lt (ha.bound _ _ _ h))) (· ▸ Int.lt_succ _)
    · intro d' n' hd'
      dsimp only at hd' ⊢
      have hne : ¬ (d' = d ∧ n' = n) := by
        intro e; rw [e.1] at hd'; exact Int.lt_irrefl _ (Int.lt_trans hdn (Int.lt_of_add_one_le hd'))
      rw [if_neg hne]
      exact ha.unused _ _ (Int.le_of_lt (Int.lt_of_add_one_le hd'))
    · intro i hi
      dsimp only at hi ⊢
      by_cases e : i = w.next
      · rw [e]; exact Int.lt_succ _
      · rw [if_neg e] at hi
        exact Int.lt_add_one_of_le (Int.le_of_lt (ha.dirs i hi))
    · intro d' n' c h
      exact (entry h).elim (ha.pos _ _ _) (· ▸ ha.next_pos)
    · exact Int.le_trans ha.next_pos (Int.le_of_lt (Int.lt_succ _))

/-- a history the kernel could have produced, with environment steps satisfying the rely
before every call and at the end -/
inductive Valid : KS → Hist → KS → Prop where
  | nil {w w'} : AddsDirs w w' → Alloc w' → Valid w [] w'
  | cons {w w1 w' c r t} : AddsDirs w w1 → Alloc w1 → r = w1.answer c → Valid (w1.effect c) t w' →
      Valid w ((c, r) :: t) w'

theorem Valid.split {w w' : KS} {t1 t2 : Hist} (ha : Alloc w) (h : Valid w (t1 ++ t2) w') :
    ∃ wm, Valid w t1 wm ∧ Valid wm t2 w' ∧ Alloc wm := by
  induction t1 generalizing w with
  | nil => exact ⟨w, .nil (AddsDirs.refl w) ha, h, ha⟩
  | cons x t ih =>
    cases h with
    | cons hR hA hr hv =>
      obtain ⟨wm, h1, h2, h3⟩ := ih (effect_guarantee _ hA _).2 hv
      exact ⟨wm, .cons hR hA hr h1, h2, h3⟩

theorem Valid.adds {w w' : KS} {t : Hist} (ha : Alloc w) (h : Valid w t w') : AddsDirs w w' ∧ Alloc w' := by
  induction h with
  | nil hR hA => exact ⟨hR, hA⟩
  | @cons w0 w1 w2 c r t hR hA hr hv ih =>
    have hg := effect_guarantee w1 hA c
    obtain ⟨h1, h2⟩ := ih hg.2
    exact ⟨AddsDirs.trans hA hR (AddsDirs.trans hg.2 hg.1 h1), h2⟩

theorem Valid.answers {w w' : KS} {t : Hist} (h : Valid w t w') : ∀ x ∈ t, ∃ w1, x.2 = KS.answer w1 x.1 := by
  induction h with
  | nil _ _ => intro x hx; cases hx
  | cons hR hA hr hv ih =>
    intro x hx
    rcases List.mem_cons.mp hx with rfl | hx
    · exact ⟨_, hr⟩
    · exact ih x hx

/-! ## What the loop is supposed to reach -/

/-- walking names through directories only -/
def kwalk (w : KS) (cur : Fd) : List Bytes → Option Fd
  | [] => some cur
  | p :: rest => match w.child cur p with
    | some c => if w.isDir c then kwalk w c rest else none
    | none => none

/-- precondition: what already exists of the chain consists of directories -/
def Pre (w : KS) (cur : Fd) : List Bytes → Prop
  | [] => True
  | p :: rest => match w.child cur p with
    | some c => w.isDir c = true ∧ Pre w c rest
    | none => True

theorem pre_of_fresh {w w' : KS} (ha : Alloc w) (hR : AddsDirs w w') :
    ∀ (parts : List Bytes) (c : Fd), w.next ≤ c → Pre w' c parts := by
  intro parts c
  -- by the clauses of `Pre`: no component; an entry that exists; none
  fun_induction Pre w' c parts with
  | case1 | case3 => exact fun _ => trivial
  | case2 c p rest x hc' ih =>
    intro hc
    have := hR.newDirs c p x (ha.unused c p hc) hc'
    exact ⟨this.1, ih this.2⟩

theorem pre_stable {w w' : KS} (ha : Alloc w) (hR : AddsDirs w w') :
    ∀ (parts : List Bytes) (cur : Fd), Pre w cur parts → Pre w' cur parts := by
  intro parts cur
  fun_induction Pre w cur parts with
  | case1 => exact id
  | case2 cur p rest c hc ih =>
    intro hpre
    simp only [Pre, hR.keep _ _ _ hc]
    exact ⟨by rw [hR.kinds c (ha.bound _ _ _ hc)]; exact hpre.1, ih hpre.2⟩
  | case3 cur p rest hc =>
    intro _
    simp only [Pre]
    cases hc' : w'.child cur p with
    | none => trivial
    | some c =>
      have := hR.newDirs _ _ _ hc hc'
      exact ⟨this.1, pre_of_fresh ha hR rest c this.2⟩

/-! ## The diagnostic reads make no `mkdirat`, whatever they are answered

Building an error value always completes (a failing probe of a thread-self spelling just
moves on to the next one), so the answers of the kernel do not matter here, and `failWith_kernel` speaks of no `KS`. -/

def NoMk (t : Hist) : Prop := ∀ x ∈ t, ∀ d n m, x.1 ≠ Call.mkdirat d n m

theorem failWith_kernel {α : Type} (d : Fd) (e : Nat) {t : Hist} {x : Except Err α}
    (hr : RunsT (Sys.failWith [d] e : M α) t x) : x = .error (.os e) ∧ NoMk t :=
  ⟨hr.failWith_result, fun y hy _ _ _ hc => nomatch hc ▸ hr.calls (Sys.failWith_sat Sys.diagPass [d] e (Q := Top)) y hy⟩

/-! ## The steps of the loop on this kernel, with the environment moving in between -/

/-- despite the name there is no hypothesis about `mkdirat` here: this is the statement of `Valid.adds` -/
theorem Valid.noMk {w w' : KS} {t : Hist} (ha : Alloc w) (h : Valid w t w') : AddsDirs w w' ∧ Alloc w' :=
  Valid.adds ha h

/-- a call and what the program does with the answer: the others have moved the kernel to some `w1`, which answers -/
theorem Valid.call_inv {α : Type} {c : Call} {k : Resp → M α} {w w' : KS} {t : Hist} {r : Except Err α}
    (hr : RunsT (M.bind' (M.call c) k) t r) (hv : Valid w t w') :
    ∃ w1 t', AddsDirs w w1 ∧ Alloc w1 ∧ RunsT (k (w1.answer c)) t' r ∧ Valid (w1.effect c) t' w' := by
  obtain ⟨x, t', rfl, hk⟩ := RunsT.call_inv hr
  cases hv with
  | cons hR hA hresp hrest => exact ⟨_, t', hR, hA, hresp ▸ hk, hrest⟩

/-- the tolerant `mkdirat`: succeeds, and afterwards the component exists and is a directory -/
theorem mkdirTolerant_step {cur : Fd} {part : Bytes} {perm : Nat} {rest : List Bytes} {w wm : KS} {t : Hist}
    {y : Except Err Unit}
    (hr : RunsT (Root.mkdirTolerant cur part perm) t y) (hv : Valid w t wm) (ha : Alloc w)
    (hc0 : 0 ≤ cur) (hd : w.isDir cur = true) (hpre : Pre w cur (part :: rest)) :
    y = .ok () ∧ ∃ c, wm.child cur part = some c ∧ wm.isDir c = true ∧ Pre wm c rest := by
  rw [Root.mkdirTolerant_eq, Sys.mkdirat_eq hc0, Sys.unitCall, M.bind_def] at hr
  obtain ⟨x, hx, rfl⟩ := RunsT.map_inv hr
  obtain ⟨w1, td, hR, hA, hdisp, hrest⟩ := Valid.call_inv hx hv
  have hd1 : w1.isDir cur = true := by rw [hR.kinds cur (ha.dirs cur hd)]; exact hd
  have hpre1 := pre_stable ha hR _ _ hpre
  cases hch : w1.child cur part with
  | some c0 =>
    -- somebody (we earlier, or another caller) already made it: `EEXIST`, tolerated
    rw [KS.answer_mkdirat_some perm hd1 hch] at hdisp
    cases hdisp.failWith_result
    rw [KS.effect_mkdirat_some perm hch] at hrest
    obtain ⟨hR2, hA2⟩ := Valid.adds hA hrest
    simp only [Pre, hch] at hpre1
    refine ⟨rfl, c0, hR2.keep _ _ _ hch, ?_, pre_stable hA hR2 _ _ hpre1.2⟩
    rw [hR2.kinds c0 (hA.bound _ _ _ hch)]; exact hpre1.1
  | none =>
    rw [KS.answer_mkdirat_none perm hd1 hch] at hdisp
    obtain ⟨rfl, rfl⟩ := RunsT.ret_inv hdisp
    have hg := effect_guarantee w1 hA (Call.mkdirat cur part perm)
    obtain ⟨hR2, hA2⟩ := Valid.adds hg.2 hrest
    refine ⟨rfl, w1.next, hR2.keep _ _ _ (KS.effect_mkdirat_child perm hd1 hch), ?_, ?_⟩
    · rw [hR2.kinds w1.next (by rw [KS.effect_mkdirat_next perm hd1 hch]; exact Int.lt_succ _)]
      exact KS.effect_mkdirat_isDir perm hd1 hch
    · exact pre_of_fresh hA (AddsDirs.trans hg.2 hg.1 hR2) rest w1.next (Int.le_refl _)

theorem openat_step {cur c : Fd} {part : Bytes} {fl : Nat} {w wn : KS} {t : Hist} {z : Except Err Fd}
    (hr : RunsT (Sys.openat cur part fl 0) t z) (hv : Valid w t wn) (ha : Alloc w)
    (hc0 : 0 ≤ cur) (hch : w.child cur part = some c) (hd : w.isDir c = true) :
    z = .ok c := by
  rw [Sys.openat_eq hc0] at hr
  obtain ⟨w1, td, hR, hA, hdisp, _⟩ := Valid.call_inv hr hv
  have h1 : w1.child cur part = some c := hR.keep _ _ _ hch
  have h2 : w1.isDir c = true := by rw [hR.kinds c (ha.bound _ _ _ hch)]; exact hd
  simp only [KS.answer, h1, h2, ↓reduceIte] at hdisp
  exact (RunsT.ret_inv hdisp).2

theorem kwalk_stable {w w' : KS} (ha : Alloc w) (hR : AddsDirs w w') :
    ∀ (parts : List Bytes) (cur fd : Fd), kwalk w cur parts = some fd → kwalk w' cur parts = some fd := by
  intro parts cur fd
  -- by the clauses of `kwalk`: no component; an entry that is a directory; one that is not; none
  fun_induction kwalk w cur parts with
  | case1 => exact id
  | case2 cur p rest c hc hd ih =>
    simp only [kwalk, hR.keep _ _ _ hc, hR.kinds c (ha.bound _ _ _ hc), hd, ↓reduceIte]
    exact ih
  | case3 | case4 => exact nofun

/-- **C12, convergence.**  Interleaved with *any* environment that only adds directories
(other `mkdir_all` callers, in any number and at every system-call boundary), the creating
loop succeeds; the descriptor it returns is the directory reached by walking the components
from the starting directory in the final state; and everything that happened — its own steps
included — only added directories. -/
theorem mkdirLoop_converges (perm : Nat) : ∀ (parts : List Bytes) (cur : Fd) (w w' : KS) (t : Hist) (r : Except Err Fd),
    Alloc w → 0 ≤ cur → w.isDir cur = true → (∀ p ∈ parts, Path.containsSlash p = false) → Pre w cur parts →
    RunsT (Root.mkdirLoop perm cur parts) t r → Valid w t w' →
    ∃ fd, r = .ok fd ∧ kwalk w' cur parts = some fd ∧ AddsDirs w w' ∧ Alloc w' := by
  intro parts
  induction parts with
  | nil =>
    intro cur w w' t r ha _ _ _ _ hr hv
    unfold Root.mkdirLoop at hr
    obtain ⟨rfl, rfl⟩ := RunsT.ret_inv hr
    obtain ⟨hR, hA⟩ := Valid.adds ha hv
    exact ⟨cur, rfl, rfl, hR, hA⟩
  | cons part rest ih =>
    intro cur w w' t r ha hc0 hd hns hpre hr hv
    have hwhole := Valid.adds ha hv
    unfold Root.mkdirLoop at hr
    have hs : Path.containsSlash part = false := hns part List.mem_cons_self
    simp only [hs, Bool.false_eq_true, ↓reduceIte, M.bind_def] at hr
    -- mkdirat (tolerant)
    obtain ⟨t1, t2, x1, rfl, h1, hr2⟩ := RunsT.mbind_inv' hr
    obtain ⟨ta, tb, y, rfl, hmk, hok⟩ := RunsT.onErr_inv h1
    rw [List.append_assoc] at hv
    obtain ⟨wm, hva, hvrest, hAm⟩ := Valid.split ha hv
    obtain ⟨rfl, c, hchm, hdm, hprem⟩ := mkdirTolerant_step hmk hva ha hc0 hd hpre
    obtain ⟨rfl, rfl⟩ := hok () rfl
    -- open it
    obtain ⟨t3, t4, x3, rfl, h3, hr4⟩ := RunsT.mbind_inv' hr2
    obtain ⟨tc, td, z, rfl, hop, hok⟩ := RunsT.onErr_inv h3
    rw [List.nil_append, List.append_assoc] at hvrest
    obtain ⟨wn, hvc, hvrest2, hAn⟩ := Valid.split hAm hvrest
    obtain rfl := openat_step hop hvc hAm hc0 hchm hdm
    obtain ⟨rfl, rfl⟩ := hok c rfl
    -- close the previous directory
    obtain ⟨t5, t6, x5, rfl, h5, hr6⟩ := RunsT.mbind_inv' hr4
    obtain ⟨_, _, rfl⟩ := RunsT.lift_inv h5
    rw [List.nil_append] at hvrest2
    obtain ⟨wo, hvcl, hvrest3, hAo⟩ := Valid.split hAn hvrest2
    -- the rest of the chain, from the new directory
    have hRmo : AddsDirs wm wo := AddsDirs.trans hAn (Valid.adds hAm hvc).1 (Valid.adds hAn hvcl).1
    have hcho : wo.child cur part = some c := hRmo.keep _ _ _ hchm
    have hdo : wo.isDir c = true := by rw [hRmo.kinds c (hAm.bound _ _ _ hchm)]; exact hdm
    obtain ⟨fd, hr', hwalk, hRf, hAf⟩ :=
      ih c wo w' t6 r hAo (hAm.pos _ _ _ hchm) hdo (fun p hp => hns p (List.mem_cons_of_mem _ hp))
        (pre_stable hAm hRmo _ _ hprem) hr6 hvrest3
    refine ⟨fd, hr', ?_, hwhole⟩
    simp only [kwalk, hRf.keep _ _ _ hcho, hRf.kinds c (hAo.bound _ _ _ hcho), hdo, ↓reduceIte]
    exact hwalk

/-! ## A one-directory kernel, and a run of the loop on it -/

/-- a kernel with one directory (id 4) and nothing else -/
def ks0 : KS := { child := fun _ _ => none, isDir := fun i => i = 4, next := 5 }

theorem ks0_alloc : Alloc ks0 := by
  constructor
  · intro d n c h; cases h
  · intro d n _; rfl
  · intro i hi
    have : i = 4 := by simpa [ks0] using hi
    rw [this]; decide
  · intro d n c h; cases h
  · decide

/-- the hypotheses of `mkdirLoop_converges` can be met: the solitary run on `ks0` is a `Valid` history of the loop -/
example : ∃ t r w', RunsT (Root.mkdirLoop 0o755 4 [b!"a"]) t r ∧ Valid ks0 t w' := by
  let o : Oracle := fun h c =>
    -- the kernel's answers along the solitary run
    match c with
    | .mkdirat .. => .unit
    | .openat .. => .fd 5
    | _ => .unit
  obtain ⟨t, ht, hr⟩ := RunsT.of_trace (Root.mkdirLoop 0o755 4 [b!"a"]) o []
  have hte : t = [(Call.mkdirat 4 b!"a" 0o755, Resp.unit),
      (Call.openat 4 b!"a" (O_NOFOLLOW ||| O_DIRECTORY ||| O_NOFOLLOW ||| O_CLOEXEC ||| O_NOCTTY) 0, Resp.fd 5),
      (Call.close 4, Resp.unit)] := by
    have : (Prog.trace o (Root.mkdirLoop 0o755 4 [b!"a"]) []).1 = _ := ht
    simp only [List.nil_append] at this
    rw [← this]
    rfl
  have hvalid : ∃ w', Valid ks0 [(Call.mkdirat 4 b!"a" 0o755, Resp.unit),
      (Call.openat 4 b!"a" (O_NOFOLLOW ||| O_DIRECTORY ||| O_NOFOLLOW ||| O_CLOEXEC ||| O_NOCTTY) 0, Resp.fd 5),
      (Call.close 4, Resp.unit)] w' := by
    have hA := ks0_alloc
    have hg := effect_guarantee ks0 hA (Call.mkdirat 4 b!"a" 0o755)
    have hg2 := effect_guarantee _ hg.2 (Call.openat 4 b!"a" (O_NOFOLLOW ||| O_DIRECTORY ||| O_NOFOLLOW ||| O_CLOEXEC ||| O_NOCTTY) 0)
    have hg3 := effect_guarantee _ hg2.2 (Call.close 4)
    exact ⟨_, .cons (AddsDirs.refl _) hA (by rfl) (.cons (AddsDirs.refl _) hg.2 (by rfl)
      (.cons (AddsDirs.refl _) hg2.2 (by rfl) (.nil (AddsDirs.refl _) hg3.2)))⟩
  obtain ⟨w', hv⟩ := hvalid
  exact ⟨t, _, w', hr, by rw [hte]; exact hv⟩
