import Pathrs.Proofs.KSim
import Pathrs.Proofs.Ancestors

/-!
# The one-shot open (`Root::open_subpath`, `Resolver::open`) on a world

Both backends compute: in-root resolution of the path (no-follow iff `O_NOFOLLOW` is among the
flags), then `open(2)` of the object found (`World.openKind`).  The kernel backend does it with one
`openat2`; the emulated backend resolves, looks at the handle and re-opens it through
`/proc/thread-self/fd/<n>` (`Procfs.reopen`).
-/

open K KRun World KSim KSpec

namespace KOpen

variable {w : World}

/-! ## flag arithmetic -/

/-- the flags the final `openat` of a reopen carries -/
def reFlags (flags : Nat) : Nat := clearBits flags O_NOFOLLOW ||| O_CLOEXEC ||| O_NOCTTY

theorem reFlags_and (flags m : Nat) (h1 : m &&& O_NOFOLLOW = 0) (h2 : O_CLOEXEC &&& m = 0) (h3 : O_NOCTTY &&& m = 0) :
    reFlags flags &&& m = flags &&& m := by
  unfold reFlags
  rw [or_and_disj _ _ _ h3, or_and_disj _ _ _ h2, clearBits_and _ _ _ h1]

theorem reFlags_nofollow (flags : Nat) : hasAll (reFlags flags) O_NOFOLLOW = false := by
  unfold reFlags hasAll
  rw [or_and_disj _ _ _ (by decide), or_and_disj _ _ _ (by decide), clearBits_and_self]
  decide

theorem openKind_congr (k : Kind) (a b : Nat)
    (h1 : a &&& O_PATH = b &&& O_PATH) (h2 : a &&& O_DIRECTORY = b &&& O_DIRECTORY)
    (h3 : a &&& O_ACCMODE = b &&& O_ACCMODE) (h4 : a &&& O_TRUNC = b &&& O_TRUNC) : openKind k a = openKind k b := by
  have e1 : hasAll a O_PATH = hasAll b O_PATH := by unfold hasAll; rw [h1]
  have e2 : hasAll a O_DIRECTORY = hasAll b O_DIRECTORY := by unfold hasAll; rw [h2]
  have e3 : accWrite a = accWrite b := by unfold accWrite hasAll; rw [h3, h4]
  cases k with
  | lnk => simp only [openKind, e1, e2]
  | dir => simp only [openKind, e1, e3]
  | other => simp only [openKind, e2]

theorem openKind_reFlags (k : Kind) (flags : Nat) : openKind k (reFlags flags) = openKind k flags :=
  openKind_congr k _ _ (reFlags_and _ _ (by decide) (by decide) (by decide))
    (reFlags_and _ _ (by decide) (by decide) (by decide)) (reFlags_and _ _ (by decide) (by decide) (by decide))
    (reFlags_and _ _ (by decide) (by decide) (by decide))

theorem creation_clearBits (flags : Nat) :
    (hasAny (clearBits flags O_NOFOLLOW) (O_CREAT ||| O_EXCL) || hasAll (clearBits flags O_NOFOLLOW) O_TMPFILE) =
      (hasAny flags (O_CREAT ||| O_EXCL) || hasAll flags O_TMPFILE) := by
  unfold hasAny hasAll
  rw [clearBits_and _ _ _ (by decide), clearBits_and _ _ _ (by decide)]

/-- the flags the kernel backend's `openat2` carries -/
def kFlags (flags : Nat) : Nat := (if hasAll flags O_PATH then flags else flags ||| O_NOCTTY) ||| O_CLOEXEC

theorem kFlags_and (flags m : Nat) (h2 : O_CLOEXEC &&& m = 0) (h3 : O_NOCTTY &&& m = 0) :
    kFlags flags &&& m = flags &&& m := by
  unfold kFlags
  rw [or_and_disj _ _ _ h2]
  split
  · rfl
  · exact or_and_disj _ _ _ h3

theorem kFlags_nofollow (flags : Nat) : hasAll (kFlags flags) O_NOFOLLOW = hasAll flags O_NOFOLLOW := by
  unfold hasAll
  rw [kFlags_and _ _ (by decide) (by decide)]

theorem openKind_kFlags (k : Kind) (flags : Nat) : openKind k (kFlags flags) = openKind k flags :=
  openKind_congr k _ _ (kFlags_and _ _ (by decide) (by decide)) (kFlags_and _ _ (by decide) (by decide))
    (kFlags_and _ _ (by decide) (by decide)) (kFlags_and _ _ (by decide) (by decide))

/-! ## run lemmas for the pieces of `open_follow` -/

theorem fdDir_onProc : onProc fdDir := Or.inr ⟨by decide, by decide⟩

theorem run_openat2_fdDir (fl rs : Nat) :
    Prog.run w (Sys.openat2 threadSelf b!"fd" fl rs) = .ok fdDir := by
  rw [run_openat2 (by decide) _ (by decide), answer_ts_fdDir]

theorem run_openH_fdDir (fuel : Nat) :
    Prog.run w (Procfs.openH (kenv w) (fuel + 1) (kenv w).proc .threadSelf b!"fd" (O_PATH ||| O_DIRECTORY))
      = .ok fdDir :=
  run_openH_ts _ _ (by decide) _ fdDir_onProc run_openat2_fdDir fuel

theorem run_openatFollow_fd (f : Fd) (hf : isTree f) (flags : Nat) :
    Prog.run w (Sys.openatFollow fdDir (Path.decimal f.toNat) (clearBits flags O_NOFOLLOW) 0) =
      match openKind (w.kind f) flags with
      | .ok () => .ok f
      | .error e => .error (.os e) := by
  have hnn : (f.toNat : Int) = f := Int.toNat_of_nonneg (tree_nonneg hf)
  have hfl : clearBits flags O_NOFOLLOW ||| O_CLOEXEC ||| O_NOCTTY = reFlags flags := rfl
  refine (run_wrapper (by decide) _ _).trans ?_
  rw [answer_openat_fdDir, hfl, reFlags_nofollow, KPath.parse_decimal, hnn, openKind_reFlags]
  cases openKind (w.kind f) flags with
  | ok u => rfl
  | error e => exact run_failWith w _ _

theorem run_openFollowH_fd (hw : w.WF) (f : Fd) (p : List Bytes) (hp : w.dpath f = some p)
    (flags : Nat) (hcf : (hasAny flags (O_CREAT ||| O_EXCL) || hasAll flags O_TMPFILE) = false) :
    Prog.run w (Procfs.openFollowH (kenv w) (kenv w).proc .threadSelf (b!"fd/" ++ Path.decimal f.toNat)
        (clearBits flags O_NOFOLLOW)) =
      match openKind (w.kind f) flags with
      | .ok () => .ok f
      | .error e => .error (.os e) := by
  have hf : isTree f := hw.path_tree f p hp
  unfold Procfs.openFollowH
  rw [strip_fdpath, if_neg Bool.false_ne_true]
  dsimp only
  rw [(creation_clearBits flags).trans hcf, if_neg Bool.false_ne_true]
  refine (run_mbind_try_ok w (run_readlinkH_fd hw f hf p hp) _).trans ?_
  unfold Procfs.openFollowTail
  refine (run_mbind_ok w _ _ _ ((run_do_liftE w _).trans (pathSplit_fdpath _))).trans ?_
  refine (run_mbind_ok w _ _ _ (run_openH_fdDir 63)).trans ?_
  refine (run_mbind_onErr_ok w (run_fetchMntId_proc fdDir fdDir_onProc []) _ _).trans ?_
  refine (run_mbind_onErr_ok w (run_verifySameMnt_proc fdDir fdDir_onProc _) _ _).trans ?_
  exact (run_try_then w _ _).trans (run_openatFollow_fd f hf flags)

/-- `Handle::reopen` on a world, for a handle that is not a symlink: the handle's object, opened with the flags -/
theorem run_reopen (hw : w.WF) (f : Fd) (p : List Bytes) (hp : w.dpath f = some p) (hk : w.kind f ≠ .lnk) (flags : Nat)
    (hcf : (hasAny flags (O_CREAT ||| O_EXCL) || hasAll flags O_TMPFILE) = false) :
    Prog.run w (Procfs.reopen (kenv w) f flags) =
      match openKind (w.kind f) flags with
      | .ok () => .ok f
      | .error e => .error (.os e) := by
  have hf : isTree f := hw.path_tree f p hp
  unfold Procfs.reopen
  rw [hcf, if_neg Bool.false_ne_true]
  refine (run_mbind_ok w _ _ _ (run_fstatat_tree f hf)).trans ?_
  rw [isSymlink_modeOf, decide_eq_false hk, if_neg Bool.false_ne_true]
  refine (run_mbind_ok w _ _ _ ((run_do_liftE w _).trans (procSubpath_nonneg f (tree_nonneg hf)))).trans ?_
  exact run_openFollowH_fd hw f p hp flags hcf

theorem run_openOnce_kernel (hw : w.WF) (path : Bytes) (hnul : path.contains 0 = false) (rflags flags : Nat)
    (hcf : (hasAny flags (O_CREAT ||| O_EXCL) || hasAll flags O_TMPFILE) = false) :
    Prog.run w (Resolver.openOnce (kenv w) { emulated := false, rflags } w.root path flags) =
      openSpec w (kcfgK w rflags (hasAll flags O_NOFOLLOW)) path flags := by
  unfold Resolver.openOnce Openat2.openOnce
  have hk : (kenv w).openat2 = true := rfl
  simp only [hcf, hk, Bool.not_true, Bool.not_false, Bool.false_eq_true, ↓reduceIte]
  rw [run_openat2_inroot hw path hnul]
  have hfl : (if hasAll flags O_PATH then flags else flags ||| O_NOCTTY) ||| O_CLOEXEC = kFlags flags := rfl
  unfold openSpec
  simp only [hfl, kFlags_nofollow, openKind_kFlags]

theorem run_openOnce_emulated (hw : w.WF) (path : Bytes) (rflags flags : Nat)
    (hcf : (hasAny flags (O_CREAT ||| O_EXCL) || hasAll flags O_TMPFILE) = false) :
    Prog.run w (Resolver.openOnce (kenv w) { emulated := true, rflags } w.root path flags) =
      openSpec w (ecfg rflags (hasAll flags O_NOFOLLOW)) path flags := by
  unfold Resolver.openOnce openSpec
  have hres : Prog.run w (Resolver.resolve (kenv w) { emulated := true, rflags } w.root path (hasAll flags O_NOFOLLOW)) =
      _ := run_opath_resolve hw path rflags (hasAll flags O_NOFOLLOW)
  rw [hcf, if_neg Bool.false_ne_true]
  refine (congrArg (Prog.run w) (if_neg Bool.false_ne_true)).trans ?_
  cases hr : resolveInRoot w (ecfg rflags (hasAll flags O_NOFOLLOW)) path with
  | error e =>
    rw [hr] at hres
    exact run_mbind_err w _ _ _ hres
  | ok c =>
    rw [hr] at hres
    obtain ⟨p, hp⟩ := resolveInRoot_inside hw _ _ _ hr
    have hc : isTree c := hw.path_tree c p hp
    refine (run_mbind_ok w _ _ _ hres).trans <| (run_mbind_onErr_ok w (run_fstatat_tree c hc) _ _).trans ?_
    dsimp only
    rw [isSymlink_modeOf]
    -- a link (found under `O_NOFOLLOW`) is answered as `open(2)` answers for a symlink; anything else is re-opened
    by_cases hk : w.kind c = .lnk
    · rw [decide_eq_true hk, if_pos rfl, hk, openKind]
      cases hasAll flags O_DIRECTORY <;> cases hasAll flags O_PATH <;> rfl
    · rw [decide_eq_false hk, if_neg Bool.false_ne_true]
      exact (run_try_then w _ _).trans (run_reopen hw c p hp hk flags hcf)

end KOpen
