import Pathrs.Proofs.Runs
import Pathrs.Proofs.KPath
import Pathrs.Proofs.Safe
import Pathrs.Proofs.Props.C01

/-!
# C02 — lookups never escape the root under any concurrent attacker schedule: the lemmas over `Runs`

For every sequence of answers, i.e. for every interleaving of attacker mutations with the library's own system calls
(a mutation can only show up as different answers to later calls).  Emulated backend: a successful walk ends with a
passed `check_current` on the very descriptor it returns (`walk_complete_checked`); a passed check is three
`as_unsafe_path` reads — root, descriptor, root — with `Path ==`-equal results (`checkCurrent_inv`), each the kernel's
answer to a `readlinkat` on libpathrs' own procfs (`asUnsafePath_inv`); equal results mean that the printed path of the
descriptor is the root's followed by the expected components, none of which is `..`, `.` or empty
(`checked_below_root`).  Kernel backend: the retry loop (`resolveLoop_inv`).  The property theorems are in
`Props/C02.lean`.

Trusted, not proved: that the `d_path` output of `/proc/thread-self/fd/<n>` is a snapshot of where the open file is
(`DPathSound`, i.e. the `readlinkat` clause of `World.answer`), and that `RESOLVE_IN_ROOT` confines the kernel's walk.
The attacker-interposition suite of the check exercises exactly these on the live kernel.
-/

open K Runs KPath Path

/-- what a passing `check_current` has read, whatever the environment did -/
def CheckPassed (env : Env) (cur root : Fd) (exp : List Bytes) (h0 h1 : Hist) : Prop :=
  ∃ rootPath curPath rootPath2 hA hB,
    Runs (Procfs.asUnsafePath env root) h0 hA (.ok rootPath) ∧
    Runs (Procfs.asUnsafePath env cur) hA hB (.ok curPath) ∧
    Runs (Procfs.asUnsafePath env root) hB h1 (.ok rootPath2) ∧
    pathEq curPath (expectedFullPath rootPath exp) = true ∧
    pathEq rootPath rootPath2 = true

theorem checkCurrent_inv {env : Env} {cur root : Fd} {exp : List Bytes} {h0 h1 : Hist}
    (hr : Runs (Opath.checkCurrent env cur root exp) h0 h1 (.ok ())) : CheckPassed env cur root exp h0 h1 := by
  unfold Opath.checkCurrent at hr
  obtain ⟨hA, rootPath, r1, hr⟩ := mbind_ok hr
  obtain ⟨hB, curPath, r2, hr⟩ := mbind_ok hr
  obtain ⟨e1, hr⟩ := unless_ok hr
  obtain ⟨_, rootPath2, r3, hr⟩ := mbind_ok hr
  obtain ⟨e2, hr⟩ := unless_ok hr
  obtain ⟨rfl, _⟩ := pure_ok hr
  exact ⟨rootPath, curPath, rootPath2, hA, hB, r1, r2, r3, by simpa using e1, by simpa using e2⟩

def OnlyCloses (t : Hist) : Prop := ∀ x ∈ t, ∃ fd, x.1 = Call.close fd

theorem OnlyCloses.nil : OnlyCloses [] := fun _ hx => by cases hx
theorem OnlyCloses.append {a b : Hist} (ha : OnlyCloses a) (hb : OnlyCloses b) : OnlyCloses (a ++ b) := by
  intro x hx
  rcases List.mem_append.mp hx with h | h
  · exact ha x h
  · exact hb x h

theorem closeList_runs (l : List Fd) {h h' : Hist} {u : Unit} (hr : Runs (Sys.closeList l) h h' u) :
    ∃ t, h' = h ++ t ∧ OnlyCloses t := by
  induction l generalizing h with
  | nil => exact ⟨[], by simp [(ret_inv hr).1], OnlyCloses.nil⟩
  | cons fd rest ih =>
    obtain ⟨_, _, h1, h2⟩ := bind_inv hr
    obtain ⟨r, rfl⟩ := close_inv h1
    obtain ⟨t, rfl, ht⟩ := ih h2
    exact ⟨(Call.close fd, r) :: t, by simp, fun x hx => (List.mem_cons.mp hx).elim (fun e => ⟨fd, e ▸ rfl⟩) (ht x)⟩

theorem lift_releaseMany_runs (a b : List Fd) {h h' : Hist} {r : Except Err Unit}
    (hr : Runs (M.lift (Opath.releaseMany a b)) h h' r) : ∃ t, h' = h ++ t ∧ OnlyCloses t := by
  obtain ⟨u, h1, _⟩ := lift_inv hr
  exact closeList_runs _ h1

/-- how a successful complete lookup ends -/
def WalkFinal (env : Env) (root : Fd) (h h' : Hist) (fd : Fd) : Prop :=
  ∃ exp h0 h1 tail, (∀ c ∈ exp, GoodComp c) ∧ h <+: h0 ∧ h' = h1 ++ tail ∧
    ((CheckPassed env fd root exp h0 h1 ∧ OnlyCloses tail) ∨
     (CheckPassed env root root exp h0 h1 ∧
       ∃ t2, tail = (Call.openat root Path.dot (O_PATH ||| O_NOFOLLOW ||| O_NOFOLLOW ||| O_CLOEXEC ||| O_NOCTTY) 0, Resp.fd fd) :: t2 ∧
         OnlyCloses t2))

theorem WalkFinal.after {env : Env} {root : Fd} {p : Prog α} {a : α} {h hm h' : Hist} {fd : Fd} (hp : Runs p h hm a)
    (hf : WalkFinal env root hm h' fd) : WalkFinal env root h h' fd := by
  obtain ⟨exp, h0, h1, tail, a, b, c, d⟩ := hf
  exact ⟨exp, h0, h1, tail, a, hp.isPrefix.trans b, c, d⟩

theorem good_dropLast {l : List Bytes} (h : ∀ c ∈ l, GoodComp c) : ∀ c ∈ l.dropLast, GoodComp c :=
  fun c hc => h c ((List.dropLast_sublist l).subset hc)

/-- one step of the walk keeps the expected components good: `""` and `.` leave them alone, `..` drops the last,
anything else is a slash-free name -/
theorem good_step {exp : List Bytes} {part0 : Bytes} (hexp : ∀ c ∈ exp, GoodComp c) (hs : single part0) :
    ∀ c ∈ (if (if part0 = [] then dot else part0) = dot then exp
        else if (if part0 = [] then dot else part0) = dotdot then exp.dropLast
        else exp ++ [if part0 = [] then dot else part0]), GoodComp c := by
  by_cases h0 : part0 = []
  · simpa [h0] using hexp
  · rw [if_neg h0]
    split
    · exact hexp
    · split
      · exact good_dropLast hexp
      · intro c hc
        rcases List.mem_append.mp hc with h3 | h3
        · exact hexp c h3
        · cases List.mem_singleton.mp h3
          exact ⟨h0, hs, ‹_›, ‹_›⟩

theorem exitPartial_not_complete {cfg : Opath.WalkCfg} {st : Opath.WalkSt} {extra : List Fd} {rem : Bytes} {e : Err}
    {h h' : Hist} {fd : Fd} {s : SStack}
    (hr : Runs (Opath.exitPartial cfg st extra rem e) h h' (.ok (.complete fd, s))) : False := by
  obtain ⟨_, _, _, hk⟩ := mbind_ok hr
  cases (pure_ok hk).2

theorem then_throw_ok {p : M α} {e : Err} {h h' : Hist} {b : β}
    (hr : Runs (M.bind' p fun _ => (throw e : M β)) h h' (.ok b)) : False := by
  obtain ⟨_, _, _, hk⟩ := mbind_ok hr
  exact throw_ok hk

theorem walk_complete_checked (env : Env) (cfg : Opath.WalkCfg) (st : Opath.WalkSt)
    (hexp : ∀ c ∈ st.expected, GoodComp c) (hrem : ∀ c ∈ st.rem, single c)
    {h h' : Hist} {fd : Fd} {s : SStack}
    (hr : Runs (Opath.walk env cfg st) h h' (.ok (.complete fd, s))) : WalkFinal env cfg.root h h' fd := by
  fun_induction Opath.walk env cfg st generalizing h with
  | case1 st hrem' =>
    obtain ⟨hA, _, r1, hr⟩ := mbind_ok hr
    obtain ⟨_, res, r2, hr⟩ := mbind_ok hr
    obtain ⟨_, _, r3, hr⟩ := mbind_ok hr
    obtain ⟨t, rfl, htc⟩ := lift_releaseMany_runs _ _ r3
    obtain ⟨rfl, he⟩ := pure_ok hr
    cases he
    have hc := checkCurrent_inv (onErr_ok r1)
    obtain ⟨hcr, r2⟩ | ⟨_, r2⟩ := ite_inv r2
    · rw [hcr] at hc
      refine ⟨st.expected, h, hA, _ :: t, hexp, List.prefix_refl _, ?_, Or.inr ⟨hc, t, rfl, htc⟩⟩
      rw [openat_ok_inv (onErr_ok r2)]; simp
    · obtain ⟨rfl, rfl⟩ := pure_ok r2
      exact ⟨st.expected, h, _, t, hexp, List.prefix_refl _, rfl, Or.inl ⟨hc, htc⟩⟩
  | case2 st part0 rest hrem' hcond e he => exact (then_throw_ok hr).elim
  | case3 st part0 rest hrem' hcond stack' hstk ih =>
    obtain ⟨_, _, r1, hr⟩ := mbind_ok hr
    rw [hrem'] at hrem
    exact .after r1 (ih hexp (fun c hc => hrem c (List.mem_cons_of_mem _ hc)) hr)
  | case4 st part0 rest hrem' remaining hdd part expected' ih1 =>
    rename_i ih2
    rw [hrem'] at hrem
    have hrest : ∀ c ∈ rest, single c := fun c hc => hrem c (List.mem_cons_of_mem _ hc)
    have hexp' : ∀ c ∈ expected', GoodComp c := good_step hexp (hrem _ List.mem_cons_self)
    obtain ⟨_, r, r1, hr⟩ := mbind_ok hr
    -- `.after`: what has run is dropped from the goal, so no chain of prefixes is carried to the final check
    refine .after r1 ?_
    cases r with
    | error e => exact (exitPartial_not_complete hr).elim
    | ok next =>
      obtain ⟨_, _, r2, hr⟩ := mbind_ok hr
      refine .after r2 ?_
      obtain ⟨_, md, r3, hr⟩ := mbind_ok hr
      refine .after r3 ?_
      obtain ⟨_, hr⟩ | ⟨_, hr⟩ := ite_inv hr
      · -- not a symlink: step into it
        generalize Opath.stackOp cfg st.stack (·.popPart part) = so at hr
        cases so with
        | error e => exact (then_throw_ok hr).elim
        | ok stack' =>
          obtain ⟨_, _, r4, hr⟩ := mbind_ok hr
          exact .after r4 (ih1 next stack' hexp' hrest hr)
      · obtain ⟨_, hr⟩ | ⟨_, hr⟩ := ite_inv hr
        · -- a trailing symlink that is not followed is the result, after its own check
          obtain ⟨_, _, r4, hr⟩ := mbind_ok hr
          refine .after r4 ?_
          obtain ⟨hm5, _, r5, hr⟩ := mbind_ok hr
          obtain ⟨_, _, r6, hr⟩ := mbind_ok hr
          obtain ⟨t, rfl, htc⟩ := lift_releaseMany_runs _ _ r6
          obtain ⟨rfl, he⟩ := pure_ok hr
          cases he
          exact ⟨expected', _, hm5, t, hexp', List.prefix_refl _, rfl, Or.inl ⟨checkCurrent_inv (onErr_ok r5), htc⟩⟩
        · obtain ⟨_, hr⟩ | ⟨_, hr⟩ := ite_inv hr
          · exact (exitPartial_not_complete hr).elim
          · obtain ⟨_, _, r4, hr⟩ := mbind_ok hr
            refine .after r4 ?_
            obtain ⟨_, hr⟩ | ⟨hlim, hr⟩ := dite_inv hr
            · exact (exitPartial_not_complete hr).elim
            · obtain ⟨_, target, r5, hr⟩ := mbind_ok hr
              refine .after r5 ?_
              obtain ⟨_, magic, r6, hr⟩ := mbind_ok hr
              refine .after r6 ?_
              obtain ⟨_, hr⟩ | ⟨_, hr⟩ := ite_inv hr
              · exact (then_throw_ok hr).elim
              · generalize Opath.stackOp cfg st.stack (·.swapLink part st.cur remaining target) = so at hr
                cases so with
                | error e => exact (then_throw_ok hr).elim
                | ok stack' =>
                  -- the link is followed: the walk goes on with its body in front of the rest
                  obtain ⟨_, _, r7, hr⟩ := mbind_ok hr
                  simp only [dite_eq_ite] at ih2
                  refine .after r7 (ih2 hlim target stack' ?_ ?_ hr)
                  · intro c hc
                    split at hc
                    · cases hc
                    · exact good_dropLast hexp' c hc
                  · intro c hc
                    rcases List.mem_append.mp hc with h1 | h1
                    · exact rawComponents_single target c h1
                    · exact hrest c h1

/-- the bytes `as_unsafe_path` returns are the kernel's answer to `readlinkat(link, "")` on the
descriptor that libpathrs' own (verified, see C06) procfs lookup of `thread-self/fd/<fd>` returned -/
theorem asUnsafePath_inv {env : Env} {fd : Fd} {h h' : Hist} {b : Bytes}
    (hr : Runs (Procfs.asUnsafePath env fd) h h' (.ok b)) :
    ∃ sub link hm r, Sys.procSubpath fd = .ok sub ∧
      Runs (Procfs.openH env Procfs.retryFuel env.proc .threadSelf sub O_PATH) h hm (.ok link) ∧
      h' = hm ++ [(Call.readlinkat link [] READLINK_BUF, Resp.bytes b), (Call.close link, r)] := by
  unfold Procfs.asUnsafePath at hr
  obtain ⟨_, sub, h0, hrl⟩ := mbind_ok hr
  obtain ⟨rfl, hsub⟩ := ofExcept_ok h0
  unfold Procfs.readlinkH at hrl
  obtain ⟨hm, link, h1, hk⟩ := mbind_ok hrl
  obtain ⟨_, h2, h3⟩ := try_then_ok hk
  obtain ⟨r, rfl⟩ := close_inv h3
  exact ⟨sub, link, hm, r, hsub, h1, by rw [readlinkat_ok_inv h2]; simp⟩

/-- the path `check_current` compares with: the root's components followed by exactly the
expected components -/
theorem components_expected (rp : Bytes) (habs : isAbsolute rp = true) (e : List Bytes)
    (he : ∀ c ∈ e, GoodComp c) :
    components (expectedFullPath rp e) = components rp ++ e.map Comp.normal :=
  KPath.components_expectedFullPath rp habs e he

/-- **what a passed check means**: the two paths the kernel printed for the root have the same components (the root
had not moved between the two reads), and, when the root's path is absolute, the path printed for the checked
descriptor has the root's components followed by normal (non-`..`) components: the object was below the root at that
instant. -/
theorem checked_below_root {env : Env} {cur root : Fd} {exp : List Bytes} {h0 h1 : Hist}
    (hc : CheckPassed env cur root exp h0 h1) (hexp : ∀ c ∈ exp, GoodComp c) :
    ∃ rootPath curPath rootPath2 hA hB,
      Runs (Procfs.asUnsafePath env root) h0 hA (.ok rootPath) ∧
      Runs (Procfs.asUnsafePath env cur) hA hB (.ok curPath) ∧
      Runs (Procfs.asUnsafePath env root) hB h1 (.ok rootPath2) ∧
      components rootPath = components rootPath2 ∧
      (isAbsolute rootPath = true → components curPath = components rootPath ++ exp.map Comp.normal) := by
  obtain ⟨rootPath, curPath, rootPath2, hA, hB, r1, r2, r3, e1, e2⟩ := hc
  refine ⟨rootPath, curPath, rootPath2, hA, hB, r1, r2, r3, ?_, ?_⟩
  · simpa [pathEq] using e2
  · intro habs
    have : components curPath = components (expectedFullPath rootPath exp) := by simpa [pathEq] using e1
    rw [this, components_expected rootPath habs exp hexp]

def isO2 : Call → Bool
  | .openat2 .. => true
  | _ => false

def NotO2 (c : Call) : Prop := isO2 c = false

def countO2 (t : Hist) : Nat := t.countP fun x => isO2 x.1

theorem noO2_pass : Pass AnyAnswer Top NotO2 :=
  .any ⟨rfl, rfl, fun _ _ => rfl, fun _ _ => rfl, fun _ => rfl, fun _ => rfl⟩

theorem failWith_countO2 {α : Type} {fds : List Fd} {e : Nat} {h h' : Hist} {x : Except Err α}
    (hr : Runs (Sys.failWith fds e : M α) h h' x) : ∃ t, h' = h ++ t ∧ countO2 t = 0 := by
  obtain ⟨t, ht, hD⟩ := (Sys.failWith_sat noO2_pass fds e (Q := Top)).runs hr
  refine ⟨t, ht, List.countP_eq_zero.mpr fun x hx => ?_⟩
  simpa [NotO2] using (hD fun _ _ => trivial).1 x hx

theorem openat2_count {d : Fd} {p : Bytes} {fl rs : Nat} {h h' : Hist} {r : Except Err Fd}
    (hr : Runs (Sys.openat2 d p fl rs) h h' r) : ∃ t, h' = h ++ t ∧ countO2 t ≤ 1 := by
  unfold Sys.openat2 at hr
  obtain ⟨_, hr⟩ | ⟨_, hr⟩ := ite_inv hr
  · -- NUL in the path: no kernel call
    obtain ⟨_, _, h1, hk⟩ | ⟨e, h1, rfl⟩ := mbind_inv hr
    · obtain ⟨rfl, _⟩ := ofExcept_inv h1
      obtain ⟨t, ht, h0⟩ := failWith_countO2 hk
      exact ⟨t, ht, h0 ▸ Nat.zero_le 1⟩
    · exact ⟨[], by simp [(ofExcept_inv h1).1], Nat.zero_le _⟩
  · obtain ⟨_, rfl, _⟩ | ⟨x, hk⟩ := wrapper_inv hr
    · exact ⟨[], by simp, Nat.zero_le _⟩
    · have key : ∃ t, h' = h ++ [(Call.openat2 d (toCString p) (fl ||| O_CLOEXEC) 0 rs OPEN_HOW_SIZE, x)] ++ t ∧
          countO2 t = 0 := by
        split at hk
        · exact ⟨[], by simp [(ret_inv hk).1], rfl⟩
        · exact failWith_countO2 hk
        · exact ⟨[], by simp [(ret_inv hk).1], rfl⟩
      obtain ⟨t, rfl, h0⟩ := key
      refine ⟨_ :: t, List.append_assoc _ _ _, ?_⟩
      unfold countO2 at h0 ⊢
      rw [List.countP_cons_of_pos rfl, h0]
      exact Nat.le_refl 1

/-- the retry loop: at most `n` `openat2` calls, whatever is answered; a success is the answer of the last one;
`EAGAIN` is never what the caller sees -/
theorem resolveLoop_inv (root : Fd) (path : Bytes) (fl rs : Nat) (n : Nat) {h h' : Hist} {r : Except Err Fd}
    (hr : Runs (Openat2.resolveLoop root path fl rs n) h h' r) :
    (∃ t, h' = h ++ t ∧ countO2 t ≤ n) ∧
    (∀ fd, r = .ok fd → ∃ pre, h' = pre ++
        [(Call.openat2 root (toCString path) (fl ||| O_CLOEXEC) 0 rs OPEN_HOW_SIZE, Resp.fd fd)]) ∧
    r ≠ .error (.os EAGAIN) := by
  induction n generalizing h with
  | zero =>
    obtain ⟨rfl, rfl⟩ := ret_inv hr
    exact ⟨⟨[], (List.append_nil _).symm, Nat.le_refl _⟩, fun _ => nofun, nofun⟩
  | succ n ih =>
    unfold Openat2.resolveLoop at hr
    -- every way out but the retry makes no further call and hands on what the one try said
    have stop : ∀ {y : Except Err Fd} {t1 : Hist} (r' : Except Err Fd), countO2 t1 ≤ 1 →
        Runs (Sys.openat2 root path fl rs) h (h ++ t1) y → Runs (Prog.ret r') (h ++ t1) h' r →
        (∀ fd, r' = .ok fd → y = .ok fd) → r' ≠ .error (.os EAGAIN) →
        (∃ t, h' = h ++ t ∧ countO2 t ≤ n + 1) ∧
        (∀ fd, r = .ok fd → ∃ pre, h' = pre ++
          [(Call.openat2 root (toCString path) (fl ||| O_CLOEXEC) 0 rs OPEN_HOW_SIZE, Resp.fd fd)]) ∧
        r ≠ .error (.os EAGAIN) := by
      intro y t1 r' hc1 hy hk hok hne
      obtain ⟨rfl, rfl⟩ := ret_inv hk
      exact ⟨⟨t1, rfl, Nat.le_trans hc1 (Nat.succ_le_succ (Nat.zero_le n))⟩,
        fun fd he => ⟨h, openat2_ok_inv (hok fd he ▸ hy)⟩, hne⟩
    obtain ⟨hm, x, h1, hk⟩ | ⟨e, h1, rfl⟩ := mbind_inv hr
    · have hy := try_ok h1
      obtain ⟨t1, rfl, hc1⟩ := openat2_count hy
      -- the three alternatives of the program: a descriptor, an errno, any other error
      split at hk
      · exact stop _ hc1 hy hk (fun _ he => he) nofun
      · obtain ⟨_, hk⟩ | ⟨_, hk⟩ := ite_inv hk
        · exact stop _ hc1 hy hk (fun _ => nofun) nofun
        · obtain ⟨_, hk⟩ | ⟨hne, hk⟩ := ite_inv hk
          · obtain ⟨⟨t2, rfl, hc2⟩, hlast, hne⟩ := ih hk
            refine ⟨⟨t1 ++ t2, (List.append_assoc _ _ _).symm ▸ rfl, ?_⟩, hlast, hne⟩
            unfold countO2
            rw [List.countP_append, Nat.add_comm n]
            exact Nat.add_le_add hc1 hc2
          · exact stop _ hc1 hy hk (fun _ => nofun) fun he => hne (by cases he; rfl)
      · rename_i hnos
        exact stop _ hc1 hy hk (fun _ => nofun) fun he => hnos _ (by cases he; rfl)
    · obtain ⟨hy, hf⟩ := try_err h1
      obtain ⟨t1, rfl, hc1⟩ := openat2_count hy
      exact stop _ hc1 hy (.ret _ _) (fun _ => nofun) fun he => by cases he; cases hf

theorem resolveLoop_runs (root : Fd) (path : Bytes) (fl rs : Nat) (n : Nat) {h h' : Hist} {r : Except Err Fd}
    (hr : Runs (Openat2.resolveLoop root path fl rs n) h h' r) :
    (∃ t, h' = h ++ t ∧ ((∀ x ∈ t, x.2.sane) → countO2 t ≤ n)) ∧
    (∀ fd, r = .ok fd → ∃ pre, h' = pre ++
        [(Call.openat2 root (toCString path) (fl ||| O_CLOEXEC) 0 rs OPEN_HOW_SIZE, Resp.fd fd)]) ∧
    r ≠ .error (.os EAGAIN) :=
  (resolveLoop_inv root path fl rs n hr).imp_left fun ⟨t, ht, hc⟩ => ⟨t, ht, fun _ => hc⟩

theorem trace_eq_run (w : World) {α : Type} (p : Prog α) (h : Hist) :
    (p.trace (fun _ c => w.answer c) h).2 = Prog.run w p := by
  induction p generalizing h with
  | ret a => rfl
  | call c k ih => exact ih _ _

/-- on the example world of C01 the no-follow lookup of `a` succeeds, so `C02_emulated_checked`
applies to an actual run -/
example : ∃ h' fd, Runs (Opath.resolve (KRun.kenv exWorld) exWorld.root b!"a" 0 true) [] h' (.ok fd) := by
  have hr := Runs.of_trace (Opath.resolve (KRun.kenv exWorld) exWorld.root b!"a" 0 true)
    (fun _ c => exWorld.answer c) []
  have hv : Prog.run exWorld (Opath.resolve (KRun.kenv exWorld) exWorld.root b!"a" 0 true) = .ok 6 := by
    rw [KSpec.run_opath_resolve exWorld_wf, exWorld_resolve_a _ rfl]
    rfl
  have e : (Prog.trace (fun _ c => exWorld.answer c)
      (Opath.resolve (KRun.kenv exWorld) exWorld.root b!"a" 0 true) []).2 = .ok 6 :=
    (trace_eq_run exWorld _ []).trans hv
  exact ⟨_, 6, e ▸ hr⟩
