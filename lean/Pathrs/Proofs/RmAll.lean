import Pathrs.Proofs.Exec

/-!
# A mutable directory tree for `remove_all`

`RFS` is a mutable directory tree with the kernel's answers to the calls `remove_all` (`RemoveAll.removeAll`, the
model of `src/utils/dir.rs`) makes, including directory streams: `dirOpen` snapshots the names, `dirNext` delivers
them one by one, so a stream can name entries that are gone.  What `remove_all` achieves on it is in
`RmAllRace.lean` (with others removing meanwhile) and `RmAllAlone.lean` (alone).
-/

open K

namespace RmAll

structure RFS where
  /-- the entries of a directory, in the order its stream lists them -/
  entries : Fd → List (Bytes × Fd)
  isDir : Fd → Bool
  /-- what the open directory stream on `d` still has to deliver -/
  streams : Fd → List Bytes

namespace RFS

def child (s : RFS) (d : Fd) (n : Bytes) : Option Fd := (s.entries d).lookup n

def removeEntry (s : RFS) (d : Fd) (n : Bytes) : RFS :=
  { s with entries := fun x => if x = d then (s.entries d).filter (fun e => e.1 ≠ n) else s.entries x }

def answer (s : RFS) : Call → Resp
  | .unlinkat d n fl =>
      match s.child d n with
      | none => .err ENOENT
      | some c =>
        if fl = AT_REMOVEDIR then
          (if s.isDir c = false then .err ENOTDIR else if s.entries c ≠ [] then .err ENOTEMPTY else .unit)
        else (if s.isDir c then .err EISDIR else .unit)
  | .openat d n _ _ =>
      -- the only opens of `remove_all` are `O_DIRECTORY|O_NOFOLLOW`
      match s.child d n with
      | none => .err ENOENT
      | some c => if s.isDir c then .fd c else .err ENOTDIR
  | .dirOpen _ => .unit
  | .dirNext d =>
      match s.streams d with
      | [] => .fin
      | n :: _ => .bytes n
  | .close _ => .unit
  -- the reads the error messages make
  | .gettid => .nums [1]
  | .fstatat _ _ _ => .nums [S_IFLNK ||| 0o777, 0, 3, 5]
  | .readlinkAbs _ => .bytes b!"/"
  | _ => .err ENOSYS

def effect (s : RFS) : Call → RFS
  | .unlinkat d n fl =>
      match s.answer (.unlinkat d n fl) with
      | .unit => s.removeEntry d n
      | _ => s
  | .dirOpen d => { s with streams := fun x => if x = d then (s.entries d).map (·.1) else s.streams x }
  | .dirNext d => { s with streams := fun x => if x = d then (s.streams d).tail else s.streams x }
  | _ => s

end RFS

def exec {α : Type} (s : RFS) : Prog α → RFS × α
  | .ret a => (s, a)
  | .call c k => exec (s.effect c) (k (s.answer c))

/-- `d` is `c` or below it -/
inductive Below (s : RFS) (c : Fd) : Fd → Prop where
  | self : Below s c c
  | step {d e : Fd} {n : Bytes} : Below s c d → (n, e) ∈ s.entries d → Below s c e

def ProperName (n : Bytes) : Prop := n ≠ [] ∧ Path.containsSlash n = false ∧ n ≠ Path.dot ∧ n ≠ Path.dotdot

/-- a finite tree: `rank` falls along entries and bounds the number of entries of a directory (`width`: the fuel of
`remove_all` is measured against it), names in a directory are distinct and proper, every object has one name, only
directories have entries, descriptor numbers are not negative -/
structure WF (s : RFS) (rank : Fd → Nat) : Prop where
  rank_lt : ∀ d n c, (n, c) ∈ s.entries d → rank c < rank d
  nodup : ∀ d, ((s.entries d).map (·.1)).Nodup
  names : ∀ d n c, (n, c) ∈ s.entries d → ProperName n
  one_parent : ∀ d d' n n' c, (n, c) ∈ s.entries d → (n', c) ∈ s.entries d' → d = d' ∧ n = n'
  files_empty : ∀ d, s.isDir d = false → s.entries d = []
  nonneg : ∀ d n c, (n, c) ∈ s.entries d → 0 ≤ c
  width : ∀ d, (s.entries d).length ≤ rank d

/-! ## `exec` is `Prog.runState` of the tree's step -/

abbrev RFS.step (s : RFS) (c : Call) : RFS × Resp := (s.effect c, s.answer c)

theorem exec_eq {α : Type} (s : RFS) (p : Prog α) : exec s p = Prog.runState RFS.step p s := by
  induction p generalizing s with
  | ret a => rfl
  | call c k ih => exact ih _ _

theorem exec_ret {α : Type} (s : RFS) (a : α) : exec s (Prog.ret a) = (s, a) := rfl
theorem exec_pure {α : Type} (s : RFS) (a : α) : exec s (pure a : M α) = (s, Except.ok a) := rfl
theorem exec_throw {α : Type} (s : RFS) (e : Err) : exec s (throw e : M α) = (s, Except.error e) := rfl
theorem exec_close (s : RFS) (d : Fd) : exec s (Sys.close d) = (s, ()) := rfl

theorem exec_mbind_err {α β : Type} {s s' : RFS} {p : M α} {e : Err} (f : α → M β)
    (h : exec s p = (s', Except.error e)) : exec s (M.bind' p f) = (s', Except.error e) :=
  (exec_eq s _).trans (Prog.runState_mbind_err f ((exec_eq s p).symm.trans h))

open Prog

/-! ## the wrappers on an `RFS` -/

theorem effect_readlinkAbs (s : RFS) (n : Bytes) : s.effect (.readlinkAbs n) = s := rfl

theorem step_diag (s : RFS) (c : Call) (h : Sys.diag c = true) : (RFS.step s c).1 = s := by
  show s.effect c = s
  -- of the clauses of `effect` only the last, "any other call", covers a diagnostic read
  fun_cases RFS.effect s c with
  | case5 => rfl
  | _ => cases h

theorem effect_unlinkat_unit {s : RFS} {d : Fd} {n : Bytes} {fl : Nat} (h : s.answer (.unlinkat d n fl) = .unit) :
    s.effect (.unlinkat d n fl) = s.removeEntry d n := by
  simp only [RFS.effect, h]

theorem effect_unlinkat_err {s : RFS} {d : Fd} {n : Bytes} {fl : Nat} {e : Nat} (h : s.answer (.unlinkat d n fl) = .err e) :
    s.effect (.unlinkat d n fl) = s := by
  simp only [RFS.effect, h]

theorem run_unlinkat_err {s : RFS} {d : Fd} (hd : 0 ≤ d) {n : Bytes} {fl : Nat} {e : Nat}
    (h : s.answer (.unlinkat d n fl) = .err e) :
    runState RFS.step (Sys.unlinkat d n fl) s = (s, Except.error (Err.os e)) := by
  rw [Sys.unlinkat_eq hd, runState_unitCall_err step_diag _ _ h]
  exact congrArg (·, _) (effect_unlinkat_err h)

/-! ## the tree's `unlinkat`, and `removeInode` on an absent entry -/

theorem zero_ne_removedir : ¬ (0 = AT_REMOVEDIR) := by decide

/-- the kernel's `unlinkat`, as one equation -/
theorem answer_unlinkat (s : RFS) (d : Fd) (n : Bytes) (fl : Nat) :
    s.answer (.unlinkat d n fl) =
      match s.child d n with
      | none => .err ENOENT
      | some c =>
        if fl = AT_REMOVEDIR then
          (if s.isDir c = false then .err ENOTDIR else if s.entries c ≠ [] then .err ENOTEMPTY else .unit)
        else (if s.isDir c then .err EISDIR else .unit) := rfl

theorem answer_unlink_none {s : RFS} {d : Fd} {n : Bytes} (fl : Nat) (h : s.child d n = none) :
    s.answer (.unlinkat d n fl) = .err ENOENT := by
  rw [answer_unlinkat, h]

theorem answer_unlink0_file {s : RFS} {d : Fd} {n : Bytes} {c : Fd} (h : s.child d n = some c)
    (hf : s.isDir c = false) : s.answer (.unlinkat d n 0) = .unit := by
  rw [answer_unlinkat, h]
  simp only [hf, zero_ne_removedir, ↓reduceIte, Bool.false_eq_true]

theorem answer_unlink0_dir {s : RFS} {d : Fd} {n : Bytes} {c : Fd} (h : s.child d n = some c)
    (hf : s.isDir c = true) : s.answer (.unlinkat d n 0) = .err EISDIR := by
  rw [answer_unlinkat, h]
  simp only [hf, zero_ne_removedir, ↓reduceIte]

theorem answer_rmdir_empty {s : RFS} {d : Fd} {n : Bytes} {c : Fd} (h : s.child d n = some c)
    (hf : s.isDir c = true) (he : s.entries c = []) : s.answer (.unlinkat d n AT_REMOVEDIR) = .unit := by
  rw [answer_unlinkat, h]
  simp only [hf, he, ↓reduceIte, Bool.true_eq_false, ne_eq, not_true_eq_false]

theorem answer_rmdir_nonempty {s : RFS} {d : Fd} {n : Bytes} {c : Fd} (h : s.child d n = some c)
    (hf : s.isDir c = true) (he : s.entries c ≠ []) : s.answer (.unlinkat d n AT_REMOVEDIR) = .err ENOTEMPTY := by
  rw [answer_unlinkat, h]
  simp only [hf, he, ↓reduceIte, Bool.true_eq_false, ne_eq, not_false_eq_true]

/-- a nest of `if`s has a property all its leaves have (`split` on it would go over the whole goal each time) -/
theorem ite_of {α : Type} {P : α → Prop} {c : Prop} [Decidable c] {a b : α} (ha : P a) (hb : P b) :
    P (if c then a else b) := by
  by_cases h : c
  · rwa [if_pos h]
  · rwa [if_neg h]

theorem answer_unlinkat_cases (s : RFS) (d : Fd) (n : Bytes) (fl : Nat) :
    s.answer (.unlinkat d n fl) = .unit ∨ ∃ e, s.answer (.unlinkat d n fl) = .err e := by
  rw [answer_unlinkat]
  cases s.child d n with
  | none => exact .inr ⟨_, rfl⟩
  | some c =>
    let P : Resp → Prop := fun r => r = .unit ∨ ∃ e, r = .err e
    have err : ∀ e, P (.err e) := fun e => .inr ⟨e, rfl⟩
    have unit : P .unit := .inl rfl
    exact ite_of (P := P) (ite_of (err _) (ite_of (err _) unit)) (ite_of (err _) unit)

theorem answer_unlinkat_unit_inv {s : RFS} {d : Fd} {n : Bytes} {fl : Nat} (h : s.answer (.unlinkat d n fl) = .unit) :
    ∃ e, s.child d n = some e ∧ (s.isDir e = false ∨ s.entries e = []) := by
  rw [answer_unlinkat] at h
  cases hc : s.child d n with
  | none => rw [hc] at h; cases h
  | some e =>
    rw [hc] at h
    dsimp only at h
    refine ⟨e, rfl, ?_⟩
    by_cases hd : s.isDir e = false
    · exact .inl hd
    · by_cases he : s.entries e = []
      · exact .inr he
      · rw [Bool.of_not_eq_false hd] at h
        simp only [he, ne_eq, not_false_eq_true, ↓reduceIte, Bool.true_eq_false] at h
        by_cases hf : fl = AT_REMOVEDIR
        · rw [if_pos hf] at h; cases h
        · rw [if_neg hf] at h; cases h

theorem run_removeInode_absent {s : RFS} {d : Fd} (hd : 0 ≤ d) {n : Bytes} (h : s.child d n = none) :
    runState RFS.step (RemoveAll.removeInode d n) s = (s, Except.error (Err.os ENOENT)) := by
  unfold RemoveAll.removeInode
  simp only [M.bind_def]
  rw [runState_mbind_ok _ (runState_try_err (run_unlinkat_err hd (answer_unlink_none 0 h)) rfl)]
  simp only []
  rw [runState_mbind_ok _ (runState_try_err (run_unlinkat_err hd (answer_unlink_none _ h)) rfl)]
  rfl

theorem run_ignoreEnoent_enoent {s s' : RFS} {p : M Unit} (h : runState RFS.step p s = (s', Except.error (Err.os ENOENT))) :
    runState RFS.step (RemoveAll.ignoreEnoent p) s = (s', Except.ok ()) := by
  unfold RemoveAll.ignoreEnoent
  simp only [M.bind_def]
  rw [runState_mbind_ok _ (runState_try_err h rfl)]
  rfl

/-! ## `removeAll` -/

theorem removeAll_succ {name : Bytes} (hname : ProperName name) (fuel : Nat) (dir : Fd) :
    RemoveAll.removeAll (fuel + 1) dir name =
      M.bind' (M.isOk (RemoveAll.ignoreEnoent (RemoveAll.removeInode dir name))) fun removed =>
        if removed then pure () else
          M.bind' (RemoveAll.openSubdir dir name) fun sub =>
            match sub with
            | none => pure ()
            | some subdir => RemoveAll.emptyDir (RemoveAll.removeAll fuel) dir name subdir fuel := by
  rw [RemoveAll.removeAll.eq_2]
  simp only [hname.2.1, hname.2.2.1, hname.2.2.2, Bool.false_eq_true, ↓reduceIte, or_self, M.bind_def]
  rfl

/-! ## lists of entries -/

theorem lookup_mem {n : Bytes} {c : Fd} {l : List (Bytes × Fd)} (h : l.lookup n = some c) : (n, c) ∈ l := by
  obtain ⟨l₁, l₂, rfl, _⟩ := List.lookup_eq_some_iff.mp h
  exact List.mem_append_right _ List.mem_cons_self

theorem lookup_of_mem {n : Bytes} {c : Fd} {l : List (Bytes × Fd)} (hnd : (l.map (·.1)).Nodup) (h : (n, c) ∈ l) :
    l.lookup n = some c := by
  obtain ⟨l₁, l₂, rfl⟩ := List.append_of_mem h
  refine List.lookup_eq_some_iff.mpr ⟨l₁, l₂, rfl, fun p hp => ?_⟩
  rw [List.map_append, List.map_cons, List.nodup_append] at hnd
  exact bne_iff_ne.mpr fun e => hnd.2.2 _ (List.mem_map_of_mem hp) _ List.mem_cons_self e.symm

theorem lookup_none_not_mem {n : Bytes} {l : List (Bytes × Fd)} (h : l.lookup n = none) (c : Fd) : (n, c) ∉ l :=
  fun hm => by simpa using List.lookup_eq_none_iff.mp h _ hm

theorem lookup_filter_ne (l : List (Bytes × Fd)) (n : Bytes) : (l.filter fun e => e.1 ≠ n).lookup n = none :=
  List.lookup_eq_none_iff.mpr fun _ hx => bne_iff_ne.mpr fun e => of_decide_eq_true (List.mem_filter.mp hx).2 e.symm

/-! ## trees -/

theorem child_mem {s : RFS} {d : Fd} {n : Bytes} {c : Fd} (h : s.child d n = some c) : (n, c) ∈ s.entries d :=
  lookup_mem h

theorem WF.child {s : RFS} {rank : Fd → Nat} (hw : WF s rank) {d : Fd} {n : Bytes} {c : Fd}
    (h : (n, c) ∈ s.entries d) : s.child d n = some c :=
  lookup_of_mem (hw.nodup d) h

/-- what a directory stream opened on `d` holds are proper names -/
theorem WF.listed {s : RFS} {rank : Fd → Nat} (hw : WF s rank) (d : Fd) :
    ∀ n ∈ (s.entries d).map (·.1), ProperName n := fun n hn => by
  obtain ⟨⟨n', e'⟩, hm, rfl⟩ := List.mem_map.mp hn
  exact hw.names d n' e' hm

theorem Below.trans {s : RFS} {a b d : Fd} (h1 : Below s a b) (h2 : Below s b d) : Below s a d := by
  induction h2 with
  | self => exact h1
  | step _ hm ih => exact .step ih hm

theorem Below.rank_le {s : RFS} {rank : Fd → Nat} (hw : WF s rank) {c d : Fd} (h : Below s c d) :
    rank d ≤ rank c := by
  induction h with
  | self => exact Nat.le_refl _
  | step _ hm ih => exact Nat.le_trans (Nat.le_of_lt (hw.rank_lt _ _ _ hm)) ih

theorem Below.mono {s s' : RFS} (hsub : ∀ d x, x ∈ s'.entries d → x ∈ s.entries d) {c d : Fd}
    (h : Below s' c d) : Below s c d := by
  induction h with
  | self => exact .self
  | step _ hm ih => exact .step ih (hsub _ _ hm)

/-- the guarantee, on the shared part of the state (directory streams are private to the descriptor that owns
them: other callers have descriptors of their own): entries only disappeared, kinds are unchanged -/
structure _root_.RmAllRace.OnlyRemoved (s s' : RFS) : Prop where
  sub : ∀ d, (s'.entries d).Sublist (s.entries d)
  kinds : s'.isDir = s.isDir

open RmAllRace (OnlyRemoved)

theorem _root_.RmAllRace.OnlyRemoved.mem {s s' : RFS} (h : OnlyRemoved s s') (d : Fd) (x : Bytes × Fd)
    (hx : x ∈ s'.entries d) : x ∈ s.entries d :=
  (h.sub d).subset hx

theorem empty_stable {s s' : RFS} (h : OnlyRemoved s s') {c : Fd} (he : s.entries c = []) : s'.entries c = [] := by
  have hs := h.sub c
  rw [he] at hs
  exact List.sublist_nil.mp hs

theorem WF.of_sub {s s' : RFS} {rank : Fd → Nat} (hw : WF s rank) (h : OnlyRemoved s s') : WF s' rank where
  rank_lt d n c hm := hw.rank_lt d n c (h.mem _ _ hm)
  nodup d := ((h.sub d).map (·.1)).nodup (hw.nodup d)
  names d n c hm := hw.names d n c (h.mem _ _ hm)
  one_parent d d' n n' c hm hm' := hw.one_parent d d' n n' c (h.mem _ _ hm) (h.mem _ _ hm')
  files_empty d hd := empty_stable h (hw.files_empty d (h.kinds ▸ hd))
  nonneg d n c hm := hw.nonneg d n c (h.mem _ _ hm)
  width d := Nat.le_trans (h.sub d).length_le (hw.width d)

/-- the postcondition of `remove_all dir name`, with the frame on streams (`removeAll_exact` proves the other four
fields; the frame on streams is not proved) -/
structure Post (s : RFS) (dir : Fd) (name : Bytes) (c : Fd) (s' : RFS) : Prop where
  parent : s'.entries dir = (s.entries dir).filter (fun e => e.1 ≠ name)
  below : ∀ d, Below s c d → s'.entries d = []
  frame : ∀ d, ¬ Below s c d → d ≠ dir → s'.entries d = s.entries d
  isDir : s'.isDir = s.isDir
  streams : ∀ d, ¬ Below s c d → s'.streams d = s.streams d

/-- equal up to the directory stream of `c` -/
structure Same (c : Fd) (s s' : RFS) : Prop where
  entries : s'.entries = s.entries
  isDir : s'.isDir = s.isDir
  streams : ∀ d, d ≠ c → s'.streams d = s.streams d

theorem Same.dirOpen (c : Fd) (s : RFS) : Same c s (s.effect (.dirOpen c)) :=
  ⟨rfl, rfl, fun d hd => by simp only [RFS.effect, hd, ↓reduceIte]⟩

theorem Same.dirNext (c : Fd) (s : RFS) : Same c s (s.effect (.dirNext c)) :=
  ⟨rfl, rfl, fun d hd => by simp only [RFS.effect, hd, ↓reduceIte]⟩

theorem streams_dirOpen (c : Fd) (s : RFS) : (s.effect (.dirOpen c)).streams c = (s.entries c).map (·.1) := by
  simp only [RFS.effect, ↓reduceIte]

theorem streams_dirNext (c : Fd) (s : RFS) : (s.effect (.dirNext c)).streams c = (s.streams c).tail := by
  simp only [RFS.effect, ↓reduceIte]

/-- the postcondition of scanning `c` (not proved of any run) -/
structure LoopPost (t : RFS) (c : Fd) (t' : RFS) : Prop where
  below : ∀ d, Below t c d → t'.entries d = []
  frame : ∀ d, ¬ Below t c d → t'.entries d = t.entries d
  isDir : t'.isDir = t.isDir
  streams : ∀ d, ¬ Below t c d → t'.streams d = t.streams d

theorem children_entry (rm : Fd → Bytes → M Unit) (c : Fd) (sf : Nat) (n : Bytes) (k : Nat) :
    RemoveAll.children rm c sf (.entry n) (k + 1) =
      M.bind' (RemoveAll.ignoreEnoent (rm c n)) fun _ =>
        M.bind' (RemoveAll.nextEntry c sf) fun nxt => RemoveAll.children rm c sf nxt k := rfl

theorem children_fin (rm : Fd → Bytes → M Unit) (c : Fd) (sf : Nat) (k : Nat) :
    RemoveAll.children rm c sf .fin (k + 1) = pure () := rfl

theorem scan_succ (rm : Fd → Bytes → M Unit) (c : Fd) (sf n : Nat) :
    RemoveAll.scan rm c sf (n + 1) =
      M.bind' (M.call (.dirOpen c)) fun r =>
        match r with
        | .unit =>
          M.bind' (RemoveAll.nextEntry c sf) fun x =>
            match x with
            | .fin => pure ()
            | first => M.bind' (RemoveAll.children rm c sf first sf) fun _ => RemoveAll.scan rm c sf n
        | .err e => if e = ENOENT then pure () else throw (.os e)
        | _ => throw (.badResp "dir_open") := by
  rw [RemoveAll.scan.eq_2]
  simp only [M.bind_def]
  rfl

theorem emptyDir_def (rm : Fd → Bytes → M Unit) (dir : Fd) (name : Bytes) (subdir : Fd) (fuel : Nat) :
    RemoveAll.emptyDir rm dir name subdir fuel =
      M.bind' ((RemoveAll.scan rm subdir fuel fuel).onErr (Sys.close subdir)) fun _ =>
        M.bind' (M.try' (RemoveAll.ignoreEnoent (RemoveAll.removeInode dir name))) fun r =>
          M.bind' (M.lift (Sys.close subdir)) fun _ => M.ofExcept r := by
  unfold RemoveAll.emptyDir
  simp only [M.bind_def]
  rfl

theorem entries_removeEntry (s : RFS) (d : Fd) (n : Bytes) (x : Fd) :
    (s.removeEntry d n).entries x = if x = d then (s.entries d).filter (fun e => e.1 ≠ n) else s.entries x := rfl

theorem _root_.RmAllRace.OnlyRemoved.refl (s : RFS) : OnlyRemoved s s := ⟨fun _ => List.Sublist.refl _, rfl⟩

theorem _root_.RmAllRace.OnlyRemoved.trans {a b c : RFS} (h1 : OnlyRemoved a b) (h2 : OnlyRemoved b c) : OnlyRemoved a c :=
  ⟨fun d => (h2.sub d).trans (h1.sub d), h2.kinds.trans h1.kinds⟩

/-! ## facts that survive removals -/

theorem absent_stable {s s' : RFS} (h : OnlyRemoved s s') {d : Fd} {n : Bytes} (ha : s.child d n = none) :
    s'.child d n = none := by
  cases hc : s'.child d n with
  | none => rfl
  | some c => exact absurd (h.mem _ _ (child_mem hc)) (lookup_none_not_mem ha c)

theorem child_back {s s' : RFS} {rank : Fd → Nat} (hw : WF s rank) (h : OnlyRemoved s s') {d : Fd} {n : Bytes} {c : Fd}
    (hc : s'.child d n = some c) : s.child d n = some c :=
  hw.child (h.mem _ _ (child_mem hc))

theorem _root_.RmAllRace.OnlyRemoved.removeEntry (s : RFS) (d : Fd) (n : Bytes) : OnlyRemoved s (s.removeEntry d n) :=
  ⟨fun x => by
    rw [entries_removeEntry]
    by_cases hx : x = d
    · subst hx; rw [if_pos rfl]; exact List.filter_sublist
    · rw [if_neg hx]; exact List.Sublist.refl _, rfl⟩

theorem child_removeEntry (s : RFS) (d : Fd) (n : Bytes) : (s.removeEntry d n).child d n = none :=
  (congrArg (List.lookup n) (if_pos rfl)).trans (lookup_filter_ne _ n)

theorem entries_nil_of_absent {s1 s : RFS} {c : Fd} (hsub : OnlyRemoved s1 s)
    (hall : ∀ n ∈ (s1.entries c).map (·.1), s.child c n = none) : s.entries c = [] := by
  apply List.eq_nil_iff_forall_not_mem.mpr
  intro x hx
  obtain ⟨n, e⟩ := x
  have hm1 : (n, e) ∈ s1.entries c := hsub.mem _ _ hx
  exact lookup_none_not_mem (hall n (List.mem_map.mpr ⟨(n, e), hm1, rfl⟩)) e hx


/-! ## a well-formed tree with a nested directory -/

namespace Example

/-- root `10` with the directory `a = 12` (file `x`, directory `y = 16` with the file `z`, and `l`) and the
file `b` -/
def s0 : RFS :=
  { entries := fun d =>
      if d = 10 then [(b!"a", 12), (b!"b", 22)]
      else if d = 12 then [(b!"x", 14), (b!"y", 16), (b!"l", 20)]
      else if d = 16 then [(b!"z", 18)] else []
    isDir := fun d => d = 10 ∨ d = 12 ∨ d = 16
    streams := fun _ => [] }

def rank0 (d : Fd) : Nat := if d = 10 then 4 else if d = 12 then 3 else if d = 16 then 1 else 0

/-- all entries of `s0`, each with its directory -/
def table : List (Fd × Bytes × Fd) :=
  [(b!"a", 12), (b!"b", 22)].map (Prod.mk 10) ++ [(b!"x", 14), (b!"y", 16), (b!"l", 20)].map (Prod.mk 12) ++
    [(b!"z", 18)].map (Prod.mk 16)

theorem entries_cases (d : Fd) :
    (d = 10 ∧ s0.entries d = [(b!"a", 12), (b!"b", 22)]) ∨
    (d = 12 ∧ s0.entries d = [(b!"x", 14), (b!"y", 16), (b!"l", 20)]) ∨
    (d = 16 ∧ s0.entries d = [(b!"z", 18)]) ∨
    (d ≠ 10 ∧ d ≠ 12 ∧ d ≠ 16 ∧ s0.entries d = []) := by
  by_cases h10 : d = 10
  · subst h10; exact .inl ⟨rfl, rfl⟩
  · by_cases h12 : d = 12
    · subst h12; exact .inr (.inl ⟨rfl, rfl⟩)
    · by_cases h16 : d = 16
      · subst h16; exact .inr (.inr (.inl ⟨rfl, rfl⟩))
      · refine .inr (.inr (.inr ⟨h10, h12, h16, ?_⟩))
        simp only [s0, h10, h12, h16, ↓reduceIte]

theorem mem_table {d : Fd} {n : Bytes} {c : Fd} (h : (n, c) ∈ s0.entries d) : (d, n, c) ∈ table := by
  rcases entries_cases d with ⟨rfl, he⟩ | ⟨rfl, he⟩ | ⟨rfl, he⟩ | ⟨_, _, _, he⟩ <;> rw [he] at h
  · exact List.mem_append_left _ (List.mem_append_left _ (List.mem_map_of_mem h))
  · exact List.mem_append_left _ (List.mem_append_right _ (List.mem_map_of_mem h))
  · exact List.mem_append_right _ (List.mem_map_of_mem h)
  · cases h

theorem table_forall (P : Fd → Bytes → Fd → Prop) (h : ∀ x ∈ table, P x.1 x.2.1 x.2.2) {d : Fd} {n : Bytes} {c : Fd}
    (hm : (n, c) ∈ s0.entries d) : P d n c :=
  h _ (mem_table hm)

instance (n : Bytes) : Decidable (ProperName n) := by unfold ProperName; infer_instance

theorem wf0 : WF s0 rank0 where
  rank_lt d n c hm := table_forall (fun d _ c => rank0 c < rank0 d) (by decide) hm
  nodup d := by
    rcases entries_cases d with ⟨_, he⟩ | ⟨_, he⟩ | ⟨_, he⟩ | ⟨_, _, _, he⟩ <;> rw [he] <;> decide
  names d n c hm := table_forall (fun _ n _ => ProperName n) (by decide) hm
  one_parent d d' n n' c hm hm' := by
    have h1 := table_forall (fun d n c => ∀ x ∈ table, x.2.2 = c → x.1 = d ∧ x.2.1 = n) (by decide) hm
    have h2 := h1 _ (mem_table hm') rfl
    exact ⟨h2.1.symm, h2.2.symm⟩
  files_empty d hd := by
    rcases entries_cases d with ⟨rfl, _⟩ | ⟨rfl, _⟩ | ⟨rfl, _⟩ | ⟨_, _, _, he⟩
    · exact absurd hd (by decide)
    · exact absurd hd (by decide)
    · exact absurd hd (by decide)
    · exact he
  nonneg d n c hm := table_forall (fun _ _ c => 0 ≤ c) (by decide) hm
  width d := by
    rcases entries_cases d with ⟨rfl, he⟩ | ⟨rfl, he⟩ | ⟨rfl, he⟩ | ⟨_, _, _, he⟩ <;> rw [he] <;> simp [rank0]

end Example

end RmAll
