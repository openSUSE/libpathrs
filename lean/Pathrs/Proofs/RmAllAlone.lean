import Pathrs.Proofs.RmAllRace

/-!
# `remove_all` alone on the tree: a corollary of convergence

Running alone is one of the racing histories (the environment's steps all trivial).  For such a history what the
program did not remove itself stays, and an entry that is gone was a file or an empty directory.  With
`removeAll_converges` (success, the entry absent, own removals inside the subtree) this gives the exact effect.
-/

open RmAll

namespace RmAllRace

/-- the history of a run from `s` with no environment steps, ending in `s'` -/
def Alone : RFS → Hist → RFS → Prop
  | s, [], s' => s' = s
  | s, (c, r) :: t, s' => r = s.answer c ∧ Alone (s.effect c) t s'

theorem exists_alone {α : Type} (p : Prog α) : ∀ s : RFS, ∃ t, RunsT p t (exec s p).2 ∧ Alone s t (exec s p).1 := by
  induction p with
  | ret a => exact fun s => ⟨[], .ret a, rfl⟩
  | call c k ih =>
    intro s
    obtain ⟨t, h1, h2⟩ := ih (s.answer c) (s.effect c)
    exact ⟨(c, s.answer c) :: t, .call c k _ t _ h1, rfl, h2⟩

theorem Alone.valid : ∀ {t : Hist} {s s' : RFS}, Alone s t s' → ValidR s t s'
  | [], s, _, h => .nil (h ▸ Removes.refl s)
  | (_, _) :: _, s, _, ⟨hr, h⟩ => .cons (Removes.refl s) hr h.valid

/-- running alone from `s` is one of the racing histories: the environment's steps may all be trivial -/
theorem exists_idle {α : Type} (p : Prog α) : ∀ s : RFS, ∃ t, RunsT p t (exec s p).2 ∧ ValidR s t (exec s p).1 :=
  fun s => (exists_alone p s).imp fun _ h => ⟨h.1, h.2.valid⟩

/-- a call leaves the entries alone and is none of the program's removals, or it is an `unlinkat` the tree
acknowledged -/
theorem effect_cases (s : RFS) (c : Call) (t : Hist) :
    ((s.effect c).entries = s.entries ∧ ownRemovals ((c, s.answer c) :: t) = ownRemovals t) ∨
    ∃ d n fl, c = .unlinkat d n fl ∧ s.answer c = .unit := by
  -- by the clauses of `effect`: an `unlinkat` answered `unit`, one refused, `dirOpen`, `dirNext`, any other call;
  -- `ownRemovals` skips (third clause) what is not an acknowledged `unlinkat`
  fun_cases RFS.effect s c with
  | case1 d n fl h => exact .inr ⟨d, n, fl, rfl, h⟩
  | case2 d n fl h => exact .inl ⟨rfl, ownRemovals.eq_3 _ _ fun _ _ _ e => h (congrArg Prod.snd e)⟩
  | case3 | case4 => exact .inl ⟨rfl, rfl⟩
  | case5 c h => exact .inl ⟨rfl, ownRemovals.eq_3 _ _ fun d n fl e => h d n fl (congrArg Prod.fst e)⟩

/-- alone, what the program does not remove itself stays.  The removals are bounded from outside: `p` rejects every
name the history removed from `d` (and maybe more), and what `p` selects of `d` is then what it selected before.  So
no membership in `ownRemovals` has to be decided. -/
theorem Alone.frame (p : Bytes → Bool) (d : Fd) : ∀ {t : Hist} {s s' : RFS}, Alone s t s' →
    (∀ n, (d, n) ∈ ownRemovals t → p n = false) →
    (s'.entries d).filter (fun e => p e.1) = (s.entries d).filter (fun e => p e.1)
  | [], _, _, h, _ => by rw [h]
  | (c, _) :: t, s, s', ⟨hr, h⟩, hp => by
    subst hr
    rcases effect_cases s c t with ⟨he, ho⟩ | ⟨d', n, fl, rfl, ha⟩
    · rw [h.frame p d (ho ▸ hp), he]
    · rw [ha] at hp
      rw [h.frame p d fun m hm => hp m (List.mem_cons_of_mem _ hm), effect_unlinkat_unit ha, entries_removeEntry]
      by_cases hd : d = d'
      · subst hd
        rw [if_pos rfl, List.filter_filter]
        refine List.filter_congr fun e _ => ?_
        by_cases hen : e.1 = n
        · rw [hen, hp n List.mem_cons_self]; rfl
        · rw [decide_eq_true hen, Bool.and_true]
      · rw [if_neg hd]

/-- alone, an entry that is gone was a file or an empty directory when the program removed it, and that is empty
still -/
theorem Alone.lost_empty {rank : Fd → Nat} : ∀ {t : Hist} {s s' : RFS}, WF s rank → Alone s t s' →
    ∀ {d : Fd} {n : Bytes} {e : Fd}, (n, e) ∈ s.entries d → (n, e) ∉ s'.entries d → s'.entries e = []
  | [], _, _, _, h, _, _, _, hin, hout => absurd (h ▸ hin) hout
  | (c, _) :: t, s, s', hw, ⟨hr, h⟩, d, n, e, hin, hout => by
    subst hr
    have hs := effect_only s c
    refine Classical.byCases (fun hin1 : (n, e) ∈ (s.effect c).entries d => h.lost_empty (hw.of_sub hs) hin1 hout)
      fun hin1 => ?_
    -- lost at this step: `c` is an `unlinkat d n` the tree acknowledged
    rcases effect_cases s c t with ⟨he, _⟩ | ⟨d', n', fl, rfl, ha⟩
    · exact absurd (he ▸ hin) hin1
    · rw [effect_unlinkat_unit ha, entries_removeEntry] at hin1
      obtain ⟨e', he', hcase⟩ := answer_unlinkat_unit_inv ha
      have hdn : d = d' ∧ n = n' := by
        by_cases hd : d = d'
        · subst hd
          rw [if_pos rfl] at hin1
          exact ⟨rfl, Classical.byContradiction fun hn => hin1 (List.mem_filter.mpr ⟨hin, decide_eq_true hn⟩)⟩
        · rw [if_neg hd] at hin1
          exact absurd hin hin1
      obtain ⟨rfl, rfl⟩ := hdn
      obtain rfl := Option.some.inj ((hw.child hin).symm.trans he')
      exact empty_stable (hs.trans h.valid.only) (hcase.elim (hw.files_empty e) id)

/-- **`remove_all` removes exactly the named subtree**: on a well-formed tree, with enough fuel, the call
succeeds, the entry is gone, every directory below it is empty, the parent lost exactly that entry and no
other directory changed. -/
theorem _root_.RmAll.removeAll_exact (s : RFS) (rank : Fd → Nat) (hw : WF s rank) (dir : Fd) (hdir : 0 ≤ dir) (name : Bytes) (c : Fd)
    (hc : s.child dir name = some c) (fuel : Nat) (hfuel : rank dir + 3 ≤ fuel) :
    ∃ s', exec s (RemoveAll.removeAll fuel dir name) = (s', .ok ()) ∧
      s'.entries dir = (s.entries dir).filter (fun e => e.1 ≠ name) ∧
      (∀ d, Below s c d → s'.entries d = []) ∧
      (∀ d, ¬ Below s c d → d ≠ dir → s'.entries d = s.entries d) ∧
      s'.isDir = s.isDir := by
  obtain ⟨t, hr, ha⟩ := exists_alone (RemoveAll.removeAll fuel dir name) s
  generalize exec s (RemoveAll.removeAll fuel dir name) = x at hr ha
  obtain ⟨s', r⟩ := x
  have hm := child_mem hc
  obtain ⟨rfl, habs, hon, hown⟩ :=
    removeAll_converges s s' rank hw dir hdir name (hw.names _ _ _ hm) fuel hfuel t r hr ha.valid
  have hown' : ∀ d n, (d, n) ∈ ownRemovals t → (d = dir ∧ n = name) ∨ Below s c d := by
    intro d n h
    rcases hown d n h with h | ⟨c', hc', hb⟩
    · exact .inl h
    · rw [hc] at hc'
      cases hc'
      exact .inr hb
  have hnb : ¬ Below s c dir := fun hb => Nat.lt_irrefl _ (Nat.lt_of_lt_of_le (hw.rank_lt _ _ _ hm) (hb.rank_le hw))
  refine ⟨s', rfl, ?_, ?_, ?_, hon.kinds⟩
  · -- of the parent's entries the program removed none but `name`, and `name` is absent at the end
    rw [← ha.frame (· ≠ name) dir fun n h =>
      (hown' _ _ h).elim (fun h => decide_eq_false (not_not_intro h.2)) fun hb => absurd hb hnb]
    exact (List.filter_eq_self.mpr fun e he =>
      decide_eq_true (p := e.1 ≠ name) fun hn => lookup_none_not_mem habs e.2 (hn ▸ he)).symm
  · intro d hb
    -- along `Below`: the entry leading here is gone, from the parent or from a directory empty by induction
    induction hb with
    | self => exact ha.lost_empty hw hm (lookup_none_not_mem habs c)
    | step _ hm' ih => exact ha.lost_empty hw hm' (by rw [ih]; exact List.not_mem_nil)
  · intro d hb hd
    have all : ∀ l : List (Bytes × Fd), l.filter (fun _ => true) = l := fun l => List.filter_eq_self.mpr fun _ _ => rfl
    exact (all _).symm.trans ((ha.frame (fun _ => true) d fun n h =>
      (hown' _ _ h).elim (fun h => absurd h.1 hd) fun h => absurd h hb).trans (all _))

/-- a racing history on the same tree: somebody else removes the file `x` inside the directory `a` first, then
`remove_all` of `a` (which still holds a sub-directory with a file, and another file) runs; `removeAll_converges` applies -/
example : ∃ t r s', RunsT (RemoveAll.removeAll 7 10 b!"a") t r ∧ ValidR Example.s0 t s' ∧
    r = .ok () ∧ s'.child 10 b!"a" = none ∧ OnlyRemoved Example.s0 s' := by
  have henv : Removes Example.s0 (Example.s0.removeEntry 12 b!"x") :=
    ⟨(OnlyRemoved.removeEntry Example.s0 12 b!"x").sub, rfl, rfl⟩
  obtain ⟨t, hr, hv⟩ := exists_idle (RemoveAll.removeAll 7 10 b!"a") (Example.s0.removeEntry 12 b!"x")
  have hv0 := hv.prepend henv
  have hconv := removeAll_converges _ _ Example.rank0 Example.wf0 10 (by decide) b!"a" (by decide) 7 (by decide) _ _ hr hv0
  exact ⟨t, _, _, hr, hv0, hconv.1, hconv.2.1, hconv.2.2.1⟩

end RmAllRace

namespace RmAll.Example

/-- `removeAll_exact` applies to the nested directory `a` of the example tree -/
example : ∃ s', exec s0 (RemoveAll.removeAll 7 10 b!"a") = (s', .ok ()) ∧
    s'.entries 10 = [(b!"b", 22)] ∧ s'.entries 12 = [] ∧ s'.entries 16 = [] := by
  obtain ⟨s', hex, hp, hb, _, _⟩ := removeAll_exact s0 rank0 wf0 10 (by decide) b!"a" 12 rfl 7 (by decide)
  refine ⟨s', hex, ?_, hb 12 .self, hb 16 (.step (n := b!"y") .self ?_)⟩
  · rw [hp]; decide
  · decide

end RmAll.Example
