import Pathrs.Kernel.ProcWorld
import Pathrs.Proofs.KRun
import Pathrs.Proofs.Bits

/-!
# The emulated procfs resolver computes the kernel's confined lookup (C07), and stays on the mount (C06)

`PWF` (well-formed procfs trees with mounts), the run lemmas on `PWorld`, `opathResolve_spec` and `openat2Resolve_spec`
(each resolver computes `resolveBeneath`), `presolve_ok` (induction over the successful runs of `presolve`: what C06 and
the final-component table of C07 rest on), `presolve_cfg` (how `presolve` reads its configuration: a larger link budget
changes nothing unless the smaller was exhausted), and the example world.

The wrapper equations need the kernel's one following `openat` as a function, so `KProcOpen.followOpen` and
`KProcOpen.prun_openatFollow` are declared here, in a `namespace KProcOpen` block.
-/

open K PWorld

variable {w : PWorld}

namespace KProc

def toOutP : Except Nat Fd → Except Err Fd
  | .ok c => .ok c
  | .error e => .error (.os e)

theorem toOutP_ok {x : Except Nat Fd} {o : Fd} (h : toOutP x = .ok o) : x = .ok o := by
  cases x with
  | error e => cases h
  | ok c => exact congrArg Except.ok (Except.ok.inj h)

/-- a procfs tree: descriptors are not negative, the start is a directory, ordinary symlinks have short non-empty relative
bodies without `..`, magic-links have absolute bodies -/
structure PWF (w : PWorld) : Prop where
  base_nonneg : 0 ≤ w.base
  base_dir : w.kind w.base = .dir
  child_nonneg : ∀ d n c, w.child d n = some c → 0 ≤ c
  lnk_body : ∀ l, w.kind l = .lnk →
    w.body l ≠ [] ∧ Path.isAbsolute (w.body l) = false ∧ (w.body l).length < READLINK_BUF ∧
      Path.dotdot ∉ Path.rawComponents (w.body l)
  magic_body : ∀ l, w.kind l = .magic → Path.isAbsolute (w.body l) = true ∧ (w.body l).length < READLINK_BUF

/-- the flag sets the final-component table of the resolver is written for (every caller in the library: `open` forces
`O_NOFOLLOW`, the base directories are opened `O_PATH|O_DIRECTORY`, `readlink` uses `O_PATH`) -/
def FlagsOk (oflags : Nat) : Prop :=
  hasAll oflags O_NOFOLLOW = true ∨ hasAll oflags O_PATH = true ∨ hasAll oflags O_DIRECTORY = true

section runlib

variable (w : PWorld)

@[simp] theorem prun_ret {α : Type} (a : α) : (Prog.ret a).prun w = a := rfl
@[simp] theorem prun_call {α : Type} (c : Call) (k : Resp → Prog α) :
    (Prog.call c k).prun w = (k (w.answer c)).prun w := rfl

theorem prun_bind {α β : Type} (p : Prog α) (f : α → Prog β) :
    (Prog.bind p f).prun w = (f (p.prun w)).prun w := by
  induction p with
  | ret a => rfl
  | call c k ih => simp [Prog.bind, ih]

@[simp] theorem prun_mbind {α β : Type} (p : M α) (f : α → M β) :
    Prog.prun w (M.bind' p f) = match Prog.prun w p with
      | .ok a => Prog.prun w (f a)
      | .error e => .error e := by
  refine (prun_bind w p _).trans ?_
  cases Prog.prun w p <;> rfl

@[simp] theorem prun_lift {α : Type} (p : Prog α) : Prog.prun w (M.lift p) = .ok (p.prun w) :=
  prun_bind w p _

@[simp] theorem prun_mcall_simp (c : Call) : Prog.prun w (M.call c) = .ok (w.answer c) :=
  prun_lift w _

@[simp] theorem prun_ofExcept_simp {α : Type} (x : Except Err α) : Prog.prun w (M.ofExcept x) = x := by
  cases x <;> rfl

@[simp] theorem prun_onErr_simp {α : Type} (p : M α) (c : Prog Unit) :
    Prog.prun w (M.onErr p c) = Prog.prun w p := by
  refine (prun_bind w p _).trans ?_
  cases Prog.prun w p with
  | ok a => rfl
  | error e => exact prun_bind w c _

@[simp] theorem prun_try_simp {α : Type} (p : M α) : Prog.prun w (M.try' p) = match Prog.prun w p with
    | .ok a => .ok (.ok a)
    | .error e => if e.isFatal then .error e else .ok (.error e) := by
  refine (prun_bind w p _).trans ?_
  cases Prog.prun w p with
  | ok a => rfl
  | error e => exact apply_ite (Prog.prun w) _ _ _

/-! ### one bind at a time

The counterparts of `KRun`'s rules: with the result of the first program known they take `prun w (bind' p f)` to
`prun w (f a)` without looking at `f`.  `prun_mbind` rewrites to a `match` on the unknown result, whose arms `simp`
then normalises over the whole continuation. -/

theorem prun_mbind_ok {α β : Type} (p : M α) (f : α → M β) (a : α) (h : Prog.prun w p = .ok a) :
    Prog.prun w (M.bind' p f) = Prog.prun w (f a) := by
  rw [prun_mbind, h]

theorem prun_mbind_err {α β : Type} (p : M α) (f : α → M β) (e : Err) (h : Prog.prun w p = .error e) :
    Prog.prun w (M.bind' p f) = .error e := by
  rw [prun_mbind, h]

theorem prun_mbind_try_ok {α β : Type} {p : M α} {a : α} (h : Prog.prun w p = .ok a) (f : Except Err α → M β) :
    Prog.prun w (M.bind' (M.try' p) f) = Prog.prun w (f (.ok a)) :=
  prun_mbind_ok w _ _ _ (by rw [prun_try_simp, h])

theorem prun_mbind_try_err {α β : Type} {p : M α} {e : Err} (h : Prog.prun w p = .error e) (hf : e.isFatal = false)
    (f : Except Err α → M β) : Prog.prun w (M.bind' (M.try' p) f) = Prog.prun w (f (.error e)) :=
  prun_mbind_ok w _ _ _ (by rw [prun_try_simp, h]; exact if_neg (by rw [hf]; exact Bool.false_ne_true))

theorem prun_mbind_onErr_ok {α β : Type} {p : M α} {a : α} (h : Prog.prun w p = .ok a) (c : Prog Unit) (f : α → M β) :
    Prog.prun w (M.bind' (p.onErr c) f) = Prog.prun w (f a) :=
  prun_mbind_ok w _ _ _ ((prun_onErr_simp w _ _).trans h)

theorem prun_mbind_lift {α β : Type} (p : Prog α) (f : α → M β) :
    Prog.prun w (M.bind' (M.lift p) f) = Prog.prun w (f (p.prun w)) :=
  prun_mbind_ok w _ _ _ (prun_lift w p)

/-- `let r ← try p; clean-up; r` is `p` on a world, which no call changes -/
theorem prun_try_then {α β : Type} (p : M α) (c : Prog β) :
    Prog.prun w (M.bind' (M.try' p) fun r => M.bind' (M.lift c) fun _ => M.ofExcept r) = Prog.prun w p := by
  rw [prun_mbind, prun_try_simp]
  cases Prog.prun w p with
  | ok a => exact prun_mbind_lift w c _
  | error e =>
    dsimp only
    by_cases hf : e.isFatal = true
    · rw [if_pos hf]
    · rw [if_neg hf]
      exact prun_mbind_lift w c _

theorem prun_close (fd : Fd) : (Sys.close fd).prun w = () := rfl
theorem prun_closeAll (l : List Fd) : (Sys.closeAll l).prun w = () := rfl

theorem prun_gettid : Sys.gettid.prun w = 1 := rfl

@[simp] theorem prun_failWith_simp {α : Type} (fds : List Fd) (e : Nat) :
    Prog.prun w (Sys.failWith (α := α) fds e) = .error (.os e) := by
  unfold Sys.failWith
  induction fds with
  | nil => rfl
  | cons fd rest ih =>
    unfold Sys.failWith.go
    rw [prun_bind]
    exact ih

@[simp] theorem prun_do_pure {α : Type} (a : α) : Prog.prun w (pure a : M α) = .ok a := rfl
@[simp] theorem prun_do_throw {α : Type} (e : Err) : Prog.prun w (throw e : M α) = .error e := rfl
@[simp] theorem prun_do_liftE {α : Type} (x : Except Err α) : Prog.prun w (liftM x : M α) = x :=
  prun_ofExcept_simp w x
@[simp] theorem prun_do_liftP {α : Type} (p : Prog α) : Prog.prun w (liftM p : M α) = .ok (p.prun w) :=
  prun_lift w p
@[simp] theorem prun_do_monadLiftE {α : Type} (x : Except Err α) : Prog.prun w (monadLift x : M α) = x :=
  prun_ofExcept_simp w x
@[simp] theorem prun_do_monadLiftP {α : Type} (p : Prog α) : Prog.prun w (monadLift p : M α) = .ok (p.prun w) :=
  prun_lift w p
@[simp] theorem prun_close_simp (fd : Fd) : (Sys.close fd).prun w = () := rfl
@[simp] theorem prun_closeAll_simp (l : List Fd) : (Sys.closeAll l).prun w = () := rfl

end runlib

theorem accWrite_or (fl x : Nat) (h3 : x &&& O_ACCMODE = 0) (h4 : x &&& O_TRUNC = 0) :
    World.accWrite (fl ||| x) = World.accWrite fl := by
  unfold World.accWrite
  rw [hasAll_or_disj_right _ _ _ h4, or_and_disj _ _ _ h3]

theorem openKind_or (k : PKind) (fl x : Nat) (h : x &&& (O_DIRECTORY ||| O_PATH ||| O_ACCMODE ||| O_TRUNC) = 0) :
    openKind k (fl ||| x) = openKind k fl := by
  simp only [Nat.and_or_distrib_left, Nat.or_eq_zero_iff] at h
  unfold openKind
  rw [hasAll_or_disj_right _ _ _ h.1.1.1, hasAll_or_disj_right _ _ _ h.1.1.2, accWrite_or _ _ h.1.2 h.2]

/-- the bits the wrappers force do not change what `open(2)` says about the final object -/
theorem openKind_forced (k : PKind) (fl : Nat) :
    openKind k (fl ||| O_NOFOLLOW ||| O_NOFOLLOW ||| O_CLOEXEC ||| O_NOCTTY) = openKind k fl := by
  rw [Nat.or_assoc, Nat.or_assoc, Nat.or_assoc, openKind_or _ _ _ (by decide)]

/-- a wrapper of `SysWrap.lean` on a world, for a descriptor that passes its test: the dispatch on the world's answer to
the one call -/
theorem prun_wrapper {α : Type} {d : Fd} (hd : 0 ≤ d) (c : Call) (k : Resp → M α) :
    Prog.prun w (M.bind' (M.ofExcept (Sys.hotfix d)) fun _ => M.bind' (M.call c) k) = Prog.prun w (k (w.answer c)) := by
  simp only [prun_mbind, prun_ofExcept_simp, KRun.hotfix_tree hd, prun_mcall_simp]

end KProc

namespace KProcOpen

open KProc

/-- what the kernel does with the one following `openat(d, name, flags)` (no `O_NOFOLLOW`) -/
def followOpen (w : PWorld) (d : Fd) (name : Bytes) (fl : Nat) : Except Nat Fd :=
  match w.lookup d name with
  | .error e => .error e
  | .ok c =>
    if hasAll fl O_NOFOLLOW || !isLink (w.kind c) then
      (match openKind (w.kind c) fl with | .ok () => .ok c | .error e => .error e)
    else
      match (if w.kind c = .magic then (match w.target c with | some t => .ok t | none => .error ENOENT)
             else w.follow c) with
      | .ok t => (match openKind (w.kind t) fl with | .ok () => .ok t | .error e => .error e)
      | .error e => .error e

def respOf : Except Nat Fd → Resp
  | .ok c => .fd c
  | .error e => .err e

theorem answer_openat (d : Fd) (n : Bytes) (fl mode : Nat) :
    w.answer (.openat d n fl mode) = respOf (followOpen w d n fl) := by
  unfold followOpen
  rw [PWorld.answer]
  cases w.lookup d n with
  | error e => rfl
  | ok c =>
    -- both sides branch alike, `respOf` at the leaves on the left and around the `if` on the right
    refine (ite_congr rfl (fun _ => ?_) fun _ => ?_).trans (apply_ite respOf _ _ _).symm
    · cases openKind (w.kind c) fl <;> rfl
    · generalize (if w.kind c = PKind.magic then _ else w.follow c) = y
      cases y with
      | error e => rfl
      | ok t => dsimp only; cases openKind (w.kind t) fl <;> rfl

theorem prun_openatFollow (d : Fd) (hd : 0 ≤ d) (n : Bytes) (fl mode : Nat) :
    Prog.prun w (Sys.openatFollow d n fl mode) = toOutP (followOpen w d n (fl ||| O_CLOEXEC ||| O_NOCTTY)) := by
  refine (prun_wrapper hd _ _).trans ?_
  rw [answer_openat]
  cases followOpen w d n (fl ||| O_CLOEXEC ||| O_NOCTTY) with
  | error e => exact prun_failWith_simp w _ _
  | ok t => rfl

theorem followOpen_nofollow (d : Fd) (n : Bytes) (fl : Nat) (h : hasAll fl O_NOFOLLOW = true) :
    followOpen w d n fl =
      match w.lookup d n with
      | .ok c => (match openKind (w.kind c) fl with | .ok () => .ok c | .error e => .error e)
      | .error e => .error e := by
  unfold followOpen
  cases w.lookup d n with
  | error e => rfl
  | ok c => simp only [h, Bool.true_or, ↓reduceIte]

/-- the bits `openat_follow` adds leave `O_NOFOLLOW` as the caller gave it -/
theorem nofollow_forced (fl : Nat) : hasAll (fl ||| O_CLOEXEC ||| O_NOCTTY) O_NOFOLLOW = hasAll fl O_NOFOLLOW := by
  rw [hasAll_or_disj_right _ _ _ (by decide), hasAll_or_disj_right _ _ _ (by decide)]

end KProcOpen

namespace KProc

open KProcOpen

theorem prun_openat (d : Fd) (hd : 0 ≤ d) (n : Bytes) (fl mode : Nat) :
    Prog.prun w (Sys.openat d n fl mode) =
      match w.lookup d n with
      | .ok c => (match openKind (w.kind c) fl with | .ok () => .ok c | .error e => .error (.os e))
      | .error e => .error (.os e) := by
  have hnf : hasAll (fl ||| O_NOFOLLOW ||| O_CLOEXEC ||| O_NOCTTY) O_NOFOLLOW = true :=
    hasAll_or_mono _ _ _ (hasAll_or_mono _ _ _ (hasAll_or_left _ _))
  have hk : ∀ k, openKind k (fl ||| O_NOFOLLOW ||| O_CLOEXEC ||| O_NOCTTY) = openKind k fl := fun k => by
    rw [Nat.or_assoc, Nat.or_assoc, openKind_or _ _ _ (by decide)]
  unfold Sys.openat
  rw [prun_openatFollow d hd, followOpen_nofollow _ _ _ hnf]
  cases w.lookup d n with
  | error e => rfl
  | ok c =>
    simp only [hk]
    cases openKind (w.kind c) fl <;> rfl

theorem prun_statx (d : Fd) (hd : 0 ≤ d) :
    Prog.prun w (Sys.statx d [] STATX_WANT) = .ok (STATX_WANT, w.mnt d) :=
  (prun_wrapper hd _ _).trans rfl

theorem prun_fetchMntId (d : Fd) (hd : 0 ≤ d) : Prog.prun w (Procfs.fetchMntId d []) = .ok (some (w.mnt d)) :=
  (prun_mbind_try_ok w (prun_statx d hd) _).trans (congrArg (fun o => Except.ok o) (if_pos hasAny_statxWant))

theorem prun_verifySameMnt (m : Nat) (d : Fd) (hd : 0 ≤ d) :
    Prog.prun w (Procfs.verifySameMnt (some m) d []) = if w.mnt d = m then .ok () else .error (.os EXDEV) := by
  unfold Procfs.verifySameMnt
  simp only [M.bind_def, prun_mbind, prun_fetchMntId d hd]
  by_cases h : w.mnt d = m
  · simp [h]
  · have : ¬ m = w.mnt d := fun e => h e.symm
    simp [h, this]

theorem prun_fstatat (d : Fd) (hd : 0 ≤ d) :
    Prog.prun w (Sys.fstatat d []) = .ok { mode := modeOf (w.kind d), uid := 0, ino := d.toNat } := by
  refine (prun_wrapper hd _ _).trans ?_
  rw [PWorld.answer, if_neg (KRun.nonneg_ne_cwd hd), if_pos rfl]
  rfl

theorem isSymlink_modeOf (k : PKind) (u i : Nat) :
    ({ mode := modeOf k, uid := u, ino := i } : Sys.Stat).isSymlink = isLink k := by
  show decide (modeOf k &&& S_IFMT = S_IFLNK) = _
  cases k <;> decide

theorem prun_readlinkat (d : Fd) (hd : 0 ≤ d) (hk : isLink (w.kind d) = true) (hlen : (w.body d).length < READLINK_BUF) :
    Prog.prun w (Sys.readlinkat d []) = .ok (w.body d) := by
  refine (prun_wrapper hd _ _).trans ?_
  rw [PWorld.answer, if_neg (fun h => h rfl), if_pos hk]
  exact congrArg (Prog.prun w) (if_neg (Nat.not_le.2 hlen))

theorem prun_dup (fd : Fd) : Prog.prun w (Sys.dup fd) = .ok fd := rfl

theorem p_nil (c : PCfg) (cur : Fd) (links : Nat) : presolve w c cur [] links = .ok cur := by
  rw [presolve.eq_def]

theorem p_notdir (c : PCfg) (cur : Fd) (x : Bytes) (rest : List Bytes) (links : Nat)
    (h : w.kind cur ≠ .dir) : presolve w c cur (x :: rest) links = .error ENOTDIR := by
  rw [presolve.eq_def]; simp [h]

theorem p_dot (c : PCfg) (cur : Fd) (x : Bytes) (rest : List Bytes) (links : Nat)
    (h : w.kind cur = .dir) (hx : x = [] ∨ x = Path.dot) :
    presolve w c cur (x :: rest) links =
      if rest = [] then (match openKind .dir c.oflags with | .ok () => .ok cur | .error e => .error e)
      else presolve w c cur rest links := by
  rw [presolve, if_neg (not_not_intro h), if_pos hx]
  rfl

theorem p_dotdot (c : PCfg) (cur : Fd) (rest : List Bytes) (links : Nat) (hk : w.kind cur = .dir) :
    presolve w c cur (Path.dotdot :: rest) links =
      if cur = w.base then .error EXDEV
      else if w.mnt (w.parent cur) ≠ w.mnt cur then .error EXDEV
      else if rest = [] then
        (match openKind .dir c.oflags with | .ok () => .ok (w.parent cur) | .error e => .error e)
      else presolve w c (w.parent cur) rest links := by
  rw [presolve, if_neg (not_not_intro hk), if_neg (by decide), if_pos rfl]
  rfl

theorem p_name {c : PCfg} {cur : Fd} {x : Bytes} {rest : List Bytes} {links : Nat}
    (h : w.kind cur = .dir) (hx : ¬ (x = [] ∨ x = Path.dot)) (h3 : x ≠ Path.dotdot) :
    presolve w c cur (x :: rest) links =
      match w.child cur x with
      | none => .error ENOENT
      | some nxt =>
        if w.mnt nxt ≠ w.mnt cur then .error EXDEV
        else if isLink (w.kind nxt) then
          if rest = [] ∧ hasAll c.oflags O_NOFOLLOW then
            (match openKind (w.kind nxt) c.oflags with | .ok () => .ok nxt | .error e => .error e)
          else if c.noSymlinks then .error ELOOP
          else if w.kind nxt = .magic then .error ELOOP
          else if links + 1 ≥ c.maxLinks then .error ELOOP
          else if Path.isAbsolute (w.body nxt) then .error EXDEV
          else presolve w c cur (Path.rawComponents (w.body nxt) ++ rest) (links + 1)
        else if rest = [] then
          (match openKind (w.kind nxt) c.oflags with | .ok () => .ok nxt | .error e => .error e)
        else presolve w c nxt rest links := by
  rw [presolve, if_neg (not_not_intro h), if_neg hx, if_neg h3]
  rfl

theorem dotOr_ne_dotdot {x : Bytes} (h : x ≠ Path.dotdot) : (if x = [] then Path.dot else x) ≠ Path.dotdot := by
  split
  · decide
  · exact h

theorem lookup_dot {cur : Fd} {x : Bytes} (hk : w.kind cur = .dir) (hx : x = [] ∨ x = Path.dot) :
    w.lookup cur (if x = [] then Path.dot else x) = .ok cur := by
  have : (if x = [] then Path.dot else x) = Path.dot := by rcases hx with h | h <;> simp [h]
  simp [this, PWorld.lookup, hk]

theorem lookup_dotdot {cur : Fd} (hk : w.kind cur = .dir) : w.lookup cur Path.dotdot = .ok (w.parent cur) := by
  have : Path.dotdot ≠ Path.dot := by decide
  simp [PWorld.lookup, hk, this]

theorem lookup_child {cur nxt : Fd} {x : Bytes} (hk : w.kind cur = .dir) (hx : ¬ (x = [] ∨ x = Path.dot))
    (hdd : x ≠ Path.dotdot) (hc : w.child cur x = some nxt) :
    w.lookup cur (if x = [] then Path.dot else x) = .ok nxt := by
  have h1 : x ≠ [] := fun h => hx (Or.inl h)
  have h2 : x ≠ Path.dot := fun h => hx (Or.inr h)
  simp [PWorld.lookup, hk, h1, h2, hdd, hc]

/-- one step of the specification through `lookup`, the kernel's answer for one component (the empty component and `.`
are the lookup of `.`, which a directory answers with itself) -/
theorem p_step {c : PCfg} {cur : Fd} {x : Bytes} {rest : List Bytes} {links : Nat} (hx : x ≠ Path.dotdot) :
    presolve w c cur (x :: rest) links =
      match w.lookup cur (if x = [] then Path.dot else x) with
      | .error e => .error e
      | .ok nxt =>
        if w.mnt nxt ≠ w.mnt cur then .error EXDEV
        else if isLink (w.kind nxt) then
          if rest = [] ∧ hasAll c.oflags O_NOFOLLOW then
            (match openKind (w.kind nxt) c.oflags with | .ok () => .ok nxt | .error e => .error e)
          else if c.noSymlinks then .error ELOOP
          else if w.kind nxt = .magic then .error ELOOP
          else if links + 1 ≥ c.maxLinks then .error ELOOP
          else if Path.isAbsolute (w.body nxt) then .error EXDEV
          else presolve w c cur (Path.rawComponents (w.body nxt) ++ rest) (links + 1)
        else if rest = [] then
          (match openKind (w.kind nxt) c.oflags with | .ok () => .ok nxt | .error e => .error e)
        else presolve w c nxt rest links := by
  by_cases hk : w.kind cur = .dir
  · by_cases hdot : x = [] ∨ x = Path.dot
    · have hnl : isLink PKind.dir = false := rfl
      rw [p_dot _ _ _ _ _ hk hdot, lookup_dot hk hdot]
      simp only [hk, ne_eq, not_true_eq_false, ↓reduceIte, hnl, Bool.false_eq_true]
    · have hne : x ≠ [] := fun h => hdot (Or.inl h)
      have hnd : x ≠ Path.dot := fun h => hdot (Or.inr h)
      rw [p_name hk hdot hx, if_neg hne, PWorld.lookup, if_neg (not_not_intro hk), if_neg hnd, if_neg hx]
      cases w.child cur x <;> rfl
  · rw [p_notdir _ _ _ _ _ hk, PWorld.lookup, if_pos hk]

/-- the recursion of `presolve`, and of the emulated walk: one component less, or one more link followed -/
theorem presolve_ind {motive : Fd → List Bytes → Nat → Prop} (maxLinks : Nat)
    (nil : ∀ cur links, motive cur [] links)
    (cons : ∀ cur x rest links, (∀ nxt, motive nxt rest links) →
      (¬ links + 1 ≥ maxLinks → ∀ body, motive cur (body ++ rest) (links + 1)) → motive cur (x :: rest) links)
    (cur : Fd) (rem : List Bytes) (links : Nat) : motive cur rem links := by
  induction hn : maxLinks - links using Nat.strongRecOn generalizing cur rem links with
  | _ n ih =>
    induction rem generalizing cur with
    | nil => exact nil cur links
    | cons x rest ihr =>
      exact cons cur x rest links (fun nxt => ihr nxt)
        (fun hlim body => ih (maxLinks - (links + 1)) (by omega) cur (body ++ rest) (links + 1) rfl)

theorem lookup_nonneg (hw : PWF w) {cur nxt : Fd} {x : Bytes} (hc : 0 ≤ cur) (hx : x ≠ Path.dotdot)
    (h : w.lookup cur x = .ok nxt) : 0 ≤ nxt := by
  unfold PWorld.lookup at h
  rw [if_neg hx] at h
  split at h
  · cases h
  · split at h
    · cases h; exact hc
    · split at h
      · cases h; exact hw.child_nonneg _ _ _ ‹_›
      · cases h

theorem prun_opathFinal (m : Nat) (oflags : Nat) (cur next nxt : Fd) (part : Bytes) (il : Bool)
    (hc : 0 ≤ cur) (hl : w.lookup cur part = .ok nxt) (hn : 0 ≤ nxt) (hm : w.mnt nxt = m) :
    Prog.prun w (Procfs.opathFinal (some m) oflags cur next part il) =
      match openKind (w.kind nxt) oflags with
      | .ok () => .ok (some nxt)
      | .error e =>
        if (hasAll oflags O_NOFOLLOW || !hasAll oflags O_DIRECTORY || Err.os e != Err.os ENOTDIR || !il) = true
        then .error (.os e) else .ok none := by
  unfold Procfs.opathFinal
  have hop : Prog.prun w (Sys.openat cur part (oflags ||| O_NOFOLLOW) 0) =
      match openKind (w.kind nxt) oflags with | .ok () => .ok nxt | .error e => .error (.os e) := by
    rw [prun_openat cur hc, hl, ← openKind_or (w.kind nxt) oflags O_NOFOLLOW (by decide)]
  cases hk : openKind (w.kind nxt) oflags with
  | ok u =>
    rw [hk] at hop
    exact (prun_mbind_try_ok w hop _).trans <|
      (prun_mbind_onErr_ok w ((prun_verifySameMnt m nxt hn).trans (if_pos hm)) _ _).trans (prun_mbind_lift w _ _)
  | error e =>
    rw [hk] at hop
    exact (prun_mbind_try_err w hop rfl _).trans <| (apply_ite (Prog.prun w) _ _ _).trans
      (ite_congr rfl (fun _ => prun_mbind_lift w _ _) fun _ => rfl)

theorem openKind_walk (k : PKind) : openKind k (O_PATH ||| O_NOFOLLOW) = .ok () := by
  cases k <;> rfl

theorem link_body_short (hw : PWF w) (l : Fd) (h : isLink (w.kind l) = true) : (w.body l).length < READLINK_BUF := by
  cases hk : w.kind l with
  | lnk => exact (hw.lnk_body l hk).2.2.1
  | magic => exact (hw.magic_body l hk).2
  | dir => rw [hk] at h; cases h
  | other => rw [hk] at h; cases h

/-- what the loop does with the object `nxt` a component names when it is the last one and the flags are not a plain
`O_PATH`: the result of `opathFinal` (`none`: carry on with the ordinary treatment) -/
def finalOut (w : PWorld) (oflags : Nat) (nxt : Fd) (rest : List Bytes) : Except Err (Option Fd) :=
  if rest = [] ∧ (oflags &&& (O_PATH ||| O_NOFOLLOW ||| O_DIRECTORY)) ≠ O_PATH then
    (match openKind (w.kind nxt) oflags with
     | .ok () => .ok (some nxt)
     | .error e =>
       if (hasAll oflags O_NOFOLLOW || !hasAll oflags O_DIRECTORY || Err.os e != Err.os ENOTDIR ||
           !isLink (w.kind nxt)) = true then .error (.os e) else .ok none)
  else .ok none

theorem loop_round (hw : PWF w) (oflags rflags : Nat) (cur : Fd) (part0 : Bytes) (rest : List Bytes) (links : Nat)
    (hc0 : 0 ≤ cur) (hnd : (if part0 = [] then Path.dot else part0) ≠ Path.dotdot) :
    Prog.prun w (Procfs.opathLoop (some (w.mnt w.base)) oflags rflags cur (part0 :: rest) links) =
      match w.lookup cur (if part0 = [] then Path.dot else part0) with
      | .error e => .error (.os e)
      | .ok nxt =>
        if w.mnt nxt ≠ w.mnt w.base then .error (.os EXDEV) else
        match finalOut w oflags nxt rest with
        | .error e => .error e
        | .ok (some fd) => .ok fd
        | .ok none =>
          if isLink (w.kind nxt) = false then
            Prog.prun w (Procfs.opathLoop (some (w.mnt w.base)) oflags rflags nxt rest links)
          else if hasAll rflags RESOLVE_NO_SYMLINKS = true then .error (.os ELOOP)
          else if links + 1 ≥ MAX_SYMLINK_TRAVERSALS then .error (.os ELOOP)
          else if Path.isAbsolute (w.body nxt) = true then .error (.os ELOOP)
          else Prog.prun w (Procfs.opathLoop (some (w.mnt w.base)) oflags rflags cur
                (Path.rawComponents (w.body nxt) ++ rest) (links + 1)) := by
  rw [Procfs.opathLoop, if_neg hnd]
  cases hl : w.lookup cur (if part0 = [] then Path.dot else part0) with
  | error e =>
    refine prun_mbind_err w _ _ _ ((prun_onErr_simp w _ _).trans ?_)
    simp only [prun_openat cur hc0, hl]
  | ok nxt =>
    have hn0 : 0 ≤ nxt := lookup_nonneg hw hc0 hnd hl
    have hopen : Prog.prun w (Sys.openat cur (if part0 = [] then Path.dot else part0) (O_PATH ||| O_NOFOLLOW) 0) =
        .ok nxt := by simp only [prun_openat cur hc0, hl, openKind_walk]
    refine (prun_mbind_onErr_ok w hopen _ _).trans ?_
    dsimp only
    by_cases hm : w.mnt nxt = w.mnt w.base
    · rw [if_neg (not_not_intro hm)]
      refine (prun_mbind_onErr_ok w ((prun_verifySameMnt _ nxt hn0).trans (if_pos hm)) _ _).trans ?_
      refine (prun_mbind_onErr_ok w (prun_fstatat nxt hn0) _ _).trans ?_
      rw [isSymlink_modeOf]
      have hF : Prog.prun w
            ((if rest = [] ∧ oflags &&& (O_PATH ||| O_NOFOLLOW ||| O_DIRECTORY) ≠ O_PATH then
              Procfs.opathFinal (some (w.mnt w.base)) oflags cur nxt (if part0 = [] then Path.dot else part0)
                (isLink (w.kind nxt))
            else pure none : M (Option Fd))) = finalOut w oflags nxt rest :=
        (apply_ite (Prog.prun w) _ _ _).trans
          (ite_congr rfl (fun _ => prun_opathFinal _ _ _ _ _ _ _ hc0 hl hn0 hm) fun _ => rfl)
      refine (prun_mbind w _ _).trans ?_
      rw [hF]
      cases finalOut w oflags nxt rest with
      | error e => rfl
      | ok a =>
        cases a with
        | some fd => rfl
        | none =>
          -- the loop's tests are the statement's, one for one; every leaf closes descriptors and answers or goes on
          refine (apply_ite (Prog.prun w) _ _ _).trans
            (ite_congr (Bool.not_eq_true' _) (fun _ => prun_mbind_lift w _ _) fun hnl => ?_)
          have hlk : isLink (w.kind nxt) = true := (Bool.not_eq_false _).mp hnl
          refine (apply_ite (Prog.prun w) _ _ _).trans (ite_congr rfl (fun _ => prun_mbind_lift w _ _) fun _ => ?_)
          by_cases hlim : links + 1 ≥ MAX_SYMLINK_TRAVERSALS
          · rw [if_pos hlim]
            exact (congrArg (Prog.prun w) (dif_pos hlim)).trans (prun_mbind_lift w _ _)
          · rw [if_neg hlim]
            refine (congrArg (Prog.prun w) (dif_neg hlim)).trans ?_
            refine (prun_mbind_onErr_ok w (prun_readlinkat nxt hn0 hlk (link_body_short hw nxt hlk)) _ _).trans ?_
            exact (apply_ite (Prog.prun w) _ _ _).trans
              (ite_congr rfl (fun _ => prun_mbind_lift w _ _) fun _ => prun_mbind_lift w _ _)
    · rw [if_pos hm]
      exact prun_mbind_err w _ _ _ ((prun_onErr_simp w _ _).trans ((prun_verifySameMnt _ nxt hn0).trans (if_neg hm)))

theorem isLink_cases {k : PKind} (h : isLink k = true) : k = .lnk ∨ k = .magic := by
  cases k
  · cases h
  · exact Or.inl rfl
  · exact Or.inr rfl
  · cases h

theorem openKind_plain_nonlink (k : PKind) (fl : Nat) (hnl : isLink k = false) (hP : hasAll fl O_PATH = true)
    (hD : hasAll fl O_DIRECTORY = false) : openKind k fl = .ok () := by
  cases k
  · simp [openKind, hP]
  · cases hnl
  · cases hnl
  · simp [openKind, hD]

theorem nonlink_tail (oflags : Nat) (nxt : Fd) (rest : List Bytes) (X Y : Except Err Fd) (P : Except Nat Fd)
    (hnl : isLink (w.kind nxt) = false) (hX0 : rest = [] → X = .ok nxt) (hX : rest ≠ [] → X = toOutP P) :
    (match finalOut w oflags nxt rest with
      | .error e => .error e
      | .ok (some fd) => .ok fd
      | .ok none => if isLink (w.kind nxt) = false then X else Y) =
    toOutP (if rest = [] then (match openKind (w.kind nxt) oflags with | .ok () => .ok nxt | .error e => .error e)
            else P) := by
  unfold finalOut
  by_cases hr : rest = []
  · by_cases hpl : oflags &&& (O_PATH ||| O_NOFOLLOW ||| O_DIRECTORY) = O_PATH
    · obtain ⟨hP, _, hD⟩ := (plainOPath_iff oflags).1 hpl
      simp only [hr, hpl, ne_eq, not_true_eq_false, and_false, ↓reduceIte, hnl, hX0 hr,
        openKind_plain_nonlink _ _ hnl hP hD]
      rfl
    · simp only [hr, hpl, ne_eq, not_false_eq_true, and_self, ↓reduceIte, hnl, Bool.not_false, Bool.or_true]
      cases openKind (w.kind nxt) oflags <;> rfl
  · simp only [hr, false_and, ↓reduceIte, hnl, hX hr]

theorem link_tail (oflags : Nat) (hfl : FlagsOk oflags) (nxt : Fd) (rest : List Bytes) (X Z : Except Err Fd)
    (hlk : isLink (w.kind nxt) = true) :
    (match finalOut w oflags nxt rest with
      | .error e => .error e
      | .ok (some fd) => .ok fd
      | .ok none => if isLink (w.kind nxt) = false then X else Z) =
    if rest = [] ∧ hasAll oflags O_NOFOLLOW = true then
      toOutP (match openKind (w.kind nxt) oflags with | .ok () => .ok nxt | .error e => .error e)
    else Z := by
  unfold finalOut
  by_cases hr : rest = []
  · by_cases hN : hasAll oflags O_NOFOLLOW = true
    · have hpl : ¬ oflags &&& (O_PATH ||| O_NOFOLLOW ||| O_DIRECTORY) = O_PATH := by
        intro h; have := ((plainOPath_iff oflags).1 h).2.1; rw [hN] at this; cases this
      simp only [hr, hpl, ne_eq, not_false_eq_true, and_self, ↓reduceIte, hN, Bool.true_or]
      cases openKind (w.kind nxt) oflags <;> rfl
    · have hN' : hasAll oflags O_NOFOLLOW = false := by simpa using hN
      by_cases hpl : oflags &&& (O_PATH ||| O_NOFOLLOW ||| O_DIRECTORY) = O_PATH
      · simp only [hr, hpl, ne_eq, not_true_eq_false, and_false, ↓reduceIte, hlk, hN', Bool.false_eq_true,
          Bool.true_eq_false]
      · -- neither `O_NOFOLLOW` nor plain `O_PATH`: by `FlagsOk` the flags have `O_DIRECTORY`, the reopen says `ENOTDIR`
        -- and `opathFinal` hands the link back to be followed
        have hD : hasAll oflags O_DIRECTORY = true := by
          cases hd : hasAll oflags O_DIRECTORY with
          | true => rfl
          | false =>
            exfalso
            rcases hfl with h | h | h
            · rw [hN'] at h; cases h
            · exact hpl ((plainOPath_iff oflags).2 ⟨h, hN', hd⟩)
            · rw [hd] at h; cases h
        have hok : openKind (w.kind nxt) oflags = .error ENOTDIR := by
          rcases isLink_cases hlk with h | h <;> rw [h] <;> simp [openKind, hD]
        simp only [hr, hpl, ne_eq, not_false_eq_true, and_self, ↓reduceIte, hok, hN', hD, hlk, Bool.not_true,
          Bool.or_false, bne_self_eq_false, Bool.false_eq_true, Bool.true_eq_false, and_false]
  · simp only [hr, false_and, ↓reduceIte, hlk, Bool.true_eq_false]

theorem loop_sim (hw : PWF w) (oflags rflags : Nat) (hfl : FlagsOk oflags) (cur : Fd) (rem : List Bytes) (links : Nat)
    (hc0 : 0 ≤ cur) (hm : w.mnt cur = w.mnt w.base) (hdd : Path.dotdot ∉ rem) :
    Prog.prun w (Procfs.opathLoop (some (w.mnt w.base)) oflags rflags cur rem links) =
      toOutP (presolve w { oflags := oflags, noSymlinks := hasAll rflags RESOLVE_NO_SYMLINKS,
                           maxLinks := MAX_SYMLINK_TRAVERSALS } cur rem links) := by
  induction cur, rem, links using presolve_ind MAX_SYMLINK_TRAVERSALS with
  | nil cur links => rw [p_nil, Procfs.opathLoop]; rfl
  | cons cur part0 rest links ih2 ih1 =>
    have hp0 : part0 ≠ Path.dotdot := fun h => hdd (h ▸ List.mem_cons_self)
    have hddr : Path.dotdot ∉ rest := fun h => hdd (List.mem_cons_of_mem _ h)
    have hnd' := dotOr_ne_dotdot hp0
    -- both sides as one round (`p_step`, `loop_round`), then branch by branch; what differs at the last component is
    -- the flag table (`link_tail`, `nonlink_tail`)
    rw [p_step hp0, hm, loop_round hw _ _ cur part0 rest links hc0 hnd']
    cases hl : w.lookup cur (if part0 = [] then Path.dot else part0) with
    | error e => rfl
    | ok nxt =>
      have hn0 : 0 ≤ nxt := lookup_nonneg hw hc0 hnd' hl
      by_cases hmn : w.mnt nxt = w.mnt w.base
      · simp only [hmn, ne_eq, not_true_eq_false, ↓reduceIte]
        by_cases hlk : isLink (w.kind nxt) = true
        · rw [link_tail oflags hfl nxt rest _ _ hlk]
          simp only [hlk, ↓reduceIte, apply_ite toOutP]
          refine ite_congr rfl (fun _ => rfl) fun _ => ?_
          refine ite_congr rfl (fun _ => rfl) fun _ => ?_
          -- the specification refuses a magic-link before it looks at the budget and says `EXDEV` for an absolute
          -- body; the loop knows neither test: by `PWF` an ordinary body is relative and a magic one absolute (`ELOOP`)
          rcases isLink_cases hlk with hkl | hkm
          · obtain ⟨_, hrel, _, hbdd⟩ := hw.lnk_body nxt hkl
            rw [if_neg (show ¬ w.kind nxt = PKind.magic by rw [hkl]; decide)]
            refine ite_congr rfl (fun _ => rfl) fun hlim => ?_
            rw [hrel, if_neg (by decide), if_neg (by decide)]
            exact ih1 hlim _ hc0 hm fun hmem => (List.mem_append.mp hmem).elim hbdd hddr
          · rw [if_pos hkm, (hw.magic_body nxt hkm).1, if_pos rfl, ite_self]
            rfl
        · have hnl : isLink (w.kind nxt) = false := by simpa using hlk
          refine (nonlink_tail (w := w) oflags nxt rest _ _ _ hnl
            (fun hr => by rw [hr, Procfs.opathLoop]; rfl) (fun _ => ih2 nxt hn0 hmn hddr)).trans ?_
          simp only [hnl, Bool.false_eq_true, ↓reduceIte]
      · simp only [hmn, ne_eq, not_false_eq_true, ↓reduceIte]
        rfl

theorem ite_error_ok {ε α : Type} {p : Prop} [Decidable p] {e : ε} {x : Except ε α} {r : α}
    (h : (if p then .error e else x) = .ok r) : ¬ p ∧ x = .ok r := by
  by_cases hp : p
  · rw [if_pos hp] at h; cases h
  · exact ⟨hp, by rwa [if_neg hp] at h⟩

theorem match_ok_iff (x : Except Nat Unit) (a r : Fd) :
    (match x with | .ok () => (.ok a : Except Nat Fd) | .error e => .error e) = .ok r ↔ x = .ok () ∧ a = r := by
  cases x with
  | error e => simp
  | ok u => cases u; simp

theorem lookup_ok_dir {cur nxt : Fd} {n : Bytes} (h : w.lookup cur n = .ok nxt) : w.kind cur = .dir := by
  unfold PWorld.lookup at h
  exact Decidable.of_not_not (ite_error_ok h).1

/-- the confined lookup goes from the directory `cur` through the component `x` to `nxt`: `nxt` is what `lookup` answers
(an empty component is `.`), it is on the mount of `cur`, and `x` is not `..` at the starting directory -/
structure Hop (w : PWorld) (cur : Fd) (x : Bytes) (nxt : Fd) : Prop where
  lookup : w.lookup cur (if x = [] then Path.dot else x) = .ok nxt
  mnt : w.mnt nxt = w.mnt cur
  beneath : x = Path.dotdot → cur ≠ w.base

theorem p_more {c : PCfg} {cur nxt : Fd} {x : Bytes} {rest : List Bytes} {links : Nat}
    (hop : Hop w cur x nxt) (hnl : x ≠ Path.dotdot → isLink (w.kind nxt) = false) (hr : rest ≠ []) :
    presolve w c cur (x :: rest) links = presolve w c nxt rest links := by
  by_cases hx : x = Path.dotdot
  · subst hx
    have hk := lookup_ok_dir hop.lookup
    cases (lookup_dotdot hk).symm.trans hop.lookup
    rw [p_dotdot c cur rest links hk, if_neg (hop.beneath rfl), if_neg (not_not_intro hop.mnt), if_neg hr]
  · rw [p_step hx, hop.lookup]
    simp only [hop.mnt, hnl hx, hr, ne_eq, not_true_eq_false, ↓reduceIte, Bool.false_eq_true]

theorem p_link_more {c : PCfg} {cur l : Fd} {x : Bytes} {rest : List Bytes} {links : Nat}
    (hop : Hop w cur x l) (hx : x ≠ Path.dotdot) (hk : w.kind l = .lnk) (hr : rest ≠ []) (hns : ¬ c.noSymlinks = true)
    (hlim : ¬ links + 1 ≥ c.maxLinks) (habs : ¬ Path.isAbsolute (w.body l) = true) :
    presolve w c cur (x :: rest) links = presolve w c cur (Path.rawComponents (w.body l) ++ rest) (links + 1) := by
  rw [p_step hx, hop.lookup]
  simp only []
  rw [if_neg (not_not_intro hop.mnt), if_pos (by rw [hk]; rfl), if_neg fun h => hr h.1, if_neg hns,
    if_neg (by rw [hk]; nofun), if_neg hlim, if_neg habs]

/-- **How a confined lookup succeeds**: by rounds of three kinds, so that what each of them passes on holds of every
successful run (`motive cur rem links r`: from `cur` with `rem` to do and `links` followed, the result is `r`).  A
component that is not followed as a link is a `Hop`: the last one (`last`) to the object returned, which has passed the
final `open(2)`; any other (`more`) to an object that is no link, where the walk goes on — both unless the component is
`..`, whose target the specification takes for a directory without looking.  An ordinary symlink, unless it is the last
component under `O_NOFOLLOW`, is followed within the budget (`link`): its relative body goes in front of what remains. -/
theorem presolve_ok {c : PCfg} {motive : Fd → List Bytes → Nat → Fd → Prop}
    (last : ∀ {cur x links nxt}, Hop w cur x nxt → (x ≠ Path.dotdot → openKind (w.kind nxt) c.oflags = .ok ()) →
      motive cur [x] links nxt)
    (more : ∀ {cur x rest links nxt r}, Hop w cur x nxt → (x ≠ Path.dotdot → isLink (w.kind nxt) = false) →
      motive nxt rest links r → motive cur (x :: rest) links r)
    (link : ∀ {cur x rest links l r}, Hop w cur x l → x ≠ Path.dotdot → w.kind l = .lnk → ¬ c.noSymlinks = true →
      ¬ links + 1 ≥ c.maxLinks → ¬ Path.isAbsolute (w.body l) = true →
      motive cur (Path.rawComponents (w.body l) ++ rest) (links + 1) r → motive cur (x :: rest) links r)
    (cur : Fd) (rem : List Bytes) (links : Nat) (r : Fd) (hne : rem ≠ [])
    (h : presolve w c cur rem links = .ok r) : motive cur rem links r := by
  -- one round by `p_dotdot` or `p_step`; every test on the way to a success has gone the way that is no error
  induction cur, rem, links using presolve_ind c.maxLinks with
  | nil => exact absurd rfl hne
  | cons cur x rest links ihs ihl =>
    by_cases hx : x = Path.dotdot
    · subst hx
      by_cases hk : w.kind cur = .dir
      · rw [p_dotdot c _ _ _ hk] at h
        obtain ⟨hb, h⟩ := ite_error_ok h
        obtain ⟨hm, h⟩ := ite_error_ok h
        have hop : Hop w cur Path.dotdot (w.parent cur) := ⟨lookup_dotdot hk, Decidable.of_not_not hm, fun _ => hb⟩
        by_cases hr : rest = []
        · subst hr
          cases ((match_ok_iff _ _ _).1 h).2
          exact last hop fun hx => absurd rfl hx
        · rw [if_neg hr] at h
          exact more hop (fun hx => absurd rfl hx) (ihs _ hr h)
      · rw [p_notdir _ _ _ _ _ hk] at h; cases h
    · rw [p_step hx] at h
      cases hl : w.lookup cur (if x = [] then Path.dot else x) with
      | error e => rw [hl] at h; cases h
      | ok nxt =>
        rw [hl] at h
        obtain ⟨hm, h⟩ := ite_error_ok h
        have hop : Hop w cur x nxt := ⟨hl, Decidable.of_not_not hm, fun h => absurd h hx⟩
        by_cases hlk : isLink (w.kind nxt) = true
        · rw [if_pos hlk] at h
          by_cases hfin : rest = [] ∧ hasAll c.oflags O_NOFOLLOW = true
          · rw [if_pos hfin] at h
            obtain ⟨ho, rfl⟩ := (match_ok_iff _ _ _).1 h
            cases hfin.1
            exact last hop fun _ => ho
          · rw [if_neg hfin] at h
            obtain ⟨hns, h⟩ := ite_error_ok h
            obtain ⟨hmg, h⟩ := ite_error_ok h
            obtain ⟨hlim, h⟩ := ite_error_ok h
            obtain ⟨habs, h⟩ := ite_error_ok h
            exact link hop hx ((isLink_cases hlk).resolve_right hmg) hns hlim habs
              (ihl hlim _ (fun h0 => KPath.splitSlash_ne_nil _ (List.append_eq_nil_iff.mp h0).1) h)
        · rw [if_neg hlk] at h
          by_cases hr : rest = []
          · subst hr
            obtain ⟨ho, rfl⟩ := (match_ok_iff _ _ _).1 h
            exact last hop fun _ => ho
          · rw [if_neg hr] at h
            exact more hop (fun _ => by simpa using hlk) (ihs _ hr h)

theorem resolveBeneath_eq (c : PCfg) (path : Bytes) (hp : path ≠ []) (ha : Path.isAbsolute path = false) :
    resolveBeneath w c path = presolve w c w.base (Path.rawComponents path) 0 := by
  unfold resolveBeneath
  rw [if_neg hp, if_neg (by simp [ha])]

theorem resolveBeneath_ok {c : PCfg} {path : Bytes} {r : Fd} (h : resolveBeneath w c path = .ok r) :
    Path.isAbsolute path = false ∧ presolve w c w.base (Path.rawComponents path) 0 = .ok r := by
  unfold resolveBeneath at h
  obtain ⟨ha, h⟩ := ite_error_ok (ite_error_ok h).2
  exact ⟨by simpa using ha, h⟩

/-- **C07**: for every procfs tree with any mounts on top of it, every non-empty sub-path without `..` and every flag
set of the table, the emulated resolver returns exactly what the kernel's confined lookup returns: the same object or
the same errno -/
theorem opathResolve_spec (hw : PWF w) (path : Bytes) (hp : path ≠ []) (hdd : Path.dotdot ∉ Path.rawComponents path)
    (oflags rflags : Nat) (hfl : FlagsOk oflags) :
    Prog.prun w (Procfs.opathResolve w.base path oflags rflags) =
      toOutP (resolveBeneath w { oflags := oflags, noSymlinks := hasAll rflags RESOLVE_NO_SYMLINKS,
                                 maxLinks := MAX_SYMLINK_TRAVERSALS } path) := by
  unfold Procfs.opathResolve resolveBeneath
  by_cases habs : Path.isAbsolute path = true
  · simp only [hp, habs, ↓reduceIte]; rfl
  · simp only [hp, habs, ↓reduceIte, Bool.false_eq_true, M.bind_def, prun_mbind,
      prun_fetchMntId _ hw.base_nonneg, prun_dup]
    exact loop_sim hw oflags rflags hfl w.base _ 0 hw.base_nonneg rfl hdd

/-- **C06**: whatever is mounted wherever, the confined lookup only returns objects on the mount it started on -/
theorem resolveBeneath_same_mnt (c : PCfg) (path : Bytes) (r : Fd) (h : resolveBeneath w c path = .ok r) :
    w.mnt r = w.mnt w.base :=
  presolve_ok (motive := fun cur _ _ r => w.mnt cur = w.mnt w.base → w.mnt r = w.mnt w.base)
    (fun hop _ h => hop.mnt.trans h) (fun hop _ ih h => ih (hop.mnt.trans h)) (fun _ _ _ _ _ _ ih => ih)
    _ _ _ _ (KPath.splitSlash_ne_nil _) (resolveBeneath_ok h).2 rfl

/-- the kernel resolver is one `openat2` with `RESOLVE_BENEATH|RESOLVE_NO_MAGICLINKS|RESOLVE_NO_XDEV` -/
theorem openat2Resolve_spec (hw : PWF w) (env : Env) (henv : env.openat2 = true) (path : Bytes)
    (hnul : path.contains 0 = false) (oflags rflags : Nat) :
    Prog.prun w (Procfs.openat2Resolve env w.base path oflags rflags) =
      toOutP (resolveBeneath w { oflags := oflags ||| O_CLOEXEC,
                                 noSymlinks := hasAll (RESOLVE_BENEATH ||| RESOLVE_NO_MAGICLINKS ||| RESOLVE_NO_XDEV ||| rflags) RESOLVE_NO_SYMLINKS,
                                 maxLinks := w.kernelLinks } path) := by
  unfold Procfs.openat2Resolve Sys.openat2
  have h0 := KRun.hotfix_tree hw.base_nonneg
  have hperm : RESOLVE_BENEATH ||| RESOLVE_NO_MAGICLINKS ||| RESOLVE_NO_XDEV =
      RESOLVE_BENEATH ||| RESOLVE_NO_XDEV ||| RESOLVE_NO_MAGICLINKS := by decide
  have h1 : hasAll (RESOLVE_BENEATH ||| RESOLVE_NO_MAGICLINKS ||| RESOLVE_NO_XDEV ||| rflags)
      (RESOLVE_BENEATH ||| RESOLVE_NO_XDEV ||| RESOLVE_NO_MAGICLINKS) = true := by
    rw [hperm]; exact hasAll_or_right _ _
  simp only [henv, Bool.not_true, Bool.false_eq_true, ↓reduceIte, hnul, M.bind_def, prun_mbind, prun_do_liftE,
    h0, prun_mcall_simp, PWorld.answer, KRun.toCString_id path hnul, h1]
  cases resolveBeneath w _ path <;> simp [toOutP]

/-- the specification reads its configuration only through `noSymlinks`, `O_NOFOLLOW`, `openKind` and the link budget,
and a larger budget changes nothing unless the smaller one was exhausted -/
theorem presolve_cfg (c c' : PCfg) (hns : c'.noSymlinks = c.noSymlinks)
    (hnf : hasAll c'.oflags O_NOFOLLOW = hasAll c.oflags O_NOFOLLOW)
    (hok : ∀ k, openKind k c'.oflags = openKind k c.oflags) (hle : c.maxLinks ≤ c'.maxLinks)
    (cur : Fd) (rem : List Bytes) (links : Nat) (h : presolve w c cur rem links ≠ .error ELOOP) :
    presolve w c' cur rem links = presolve w c cur rem links := by
  induction cur, rem, links using presolve_ind c.maxLinks with
  | nil cur links => rw [p_nil, p_nil]
  | cons cur x rest links ihs ihl =>
    by_cases hk : w.kind cur = .dir
    · by_cases hx : x = Path.dotdot
      · subst hx
        rw [p_dotdot c _ _ _ hk] at h
        rw [p_dotdot c' _ _ _ hk, p_dotdot c _ _ _ hk, hok]
        refine ite_congr rfl (fun _ => rfl) fun hb => ?_
        refine ite_congr rfl (fun _ => rfl) fun hm => ?_
        refine ite_congr rfl (fun _ => rfl) fun hr => ?_
        exact ihs _ (by rwa [if_neg hb, if_neg hm, if_neg hr] at h)
      · rw [p_step (c := c) hx] at h
        rw [p_step (c := c') hx, p_step (c := c) hx]
        cases hl : w.lookup cur (if x = [] then Path.dot else x) with
        | error e => rfl
        | ok nxt =>
          rw [hl] at h
          simp only [hns, hnf, hok] at h ⊢
          refine ite_congr rfl (fun _ => rfl) fun hm => ?_
          refine ite_congr rfl (fun hlk => ?_) fun hnl => ?_
          · refine ite_congr rfl (fun _ => rfl) fun hfin => ?_
            refine ite_congr rfl (fun _ => rfl) fun hnos => ?_
            refine ite_congr rfl (fun _ => rfl) fun hmg => ?_
            rw [if_neg hm, if_pos hlk, if_neg hfin, if_neg hnos, if_neg hmg] at h
            -- only here do the two configurations differ: `h` says the smaller budget was not exhausted
            have hlim : ¬ links + 1 ≥ c.maxLinks := fun hl' => h (if_pos hl')
            rw [if_neg hlim] at h ⊢
            rw [if_neg fun hl' => hlim (Nat.le_trans hle hl')]
            refine ite_congr rfl (fun _ => rfl) fun habs => ?_
            exact ihl hlim _ (by rwa [if_neg habs] at h)
          · refine ite_congr rfl (fun _ => rfl) fun hr => ?_
            exact ihs nxt (by rwa [if_neg hm, if_neg hnl, if_neg hr] at h)
    · rw [p_notdir _ _ _ _ _ hk, p_notdir _ _ _ _ _ hk]

theorem resolveBeneath_cfg (c c' : PCfg) (hns : c'.noSymlinks = c.noSymlinks)
    (hnf : hasAll c'.oflags O_NOFOLLOW = hasAll c.oflags O_NOFOLLOW)
    (hok : ∀ k, openKind k c'.oflags = openKind k c.oflags) (hle : c.maxLinks ≤ c'.maxLinks)
    (path : Bytes) (h : resolveBeneath w c path ≠ .error ELOOP) :
    resolveBeneath w c' path = resolveBeneath w c path := by
  unfold resolveBeneath at h ⊢
  refine ite_congr rfl (fun _ => rfl) fun hp => ite_congr rfl (fun _ => rfl) fun ha => ?_
  exact presolve_cfg c c' hns hnf hok hle _ _ _ (by rwa [if_neg hp, if_neg ha] at h)

theorem all_nonneg {o : Option Fd} (h : o.all (fun c => decide (0 ≤ c)) = true) : ∀ c, o = some c → 0 ≤ c := by
  intro c hc
  subst hc
  exact of_decide_eq_true h

/-- for a `kind` written as a cascade of three membership tests, as `exampleWorld`'s is -/
theorem kind_by_lists {A B C : List Fd} {l : Fd} {k : PKind}
    (h : (if l ∈ A then PKind.dir else if l ∈ B then .lnk else if l ∈ C then .magic else .other) = k) :
    (k = .lnk → l ∈ B) ∧ (k = .magic → l ∈ C) := by
  subst h
  split
  · exact ⟨nofun, nofun⟩
  · split
    · exact ⟨fun _ => ‹_›, nofun⟩
    · split
      · exact ⟨nofun, fun _ => ‹_›⟩
      · exact ⟨nofun, nofun⟩

/-- `/proc` with `self -> 100`, `net -> self/net`, `mounts -> self/mounts`, the magic-links `100/exe`, `100/cwd`,
`100/fd/3`, and other mounts on top of `uptime` and `fs` -/
def exampleWorld : PWorld :=
  { base := 10
    kind := fun d =>
      if d ∈ [10, 14, 20, 30, 34] then .dir else if d ∈ [12, 28, 38] then .lnk
      else if d ∈ [18, 22, 24] then .magic else .other
    child := fun d n =>
      if d = 10 then
        (if n = b!"self" then some 12 else if n = b!"100" then some 14 else if n = b!"uptime" then some 26
         else if n = b!"net" then some 28 else if n = b!"fs" then some 34 else if n = b!"mounts" then some 38
         else if n = b!"cpuinfo" then some 42 else none)
      else if d = 14 then
        (if n = b!"status" then some 16 else if n = b!"exe" then some 18 else if n = b!"fd" then some 20
         else if n = b!"cwd" then some 24 else if n = b!"net" then some 30 else if n = b!"mounts" then some 40
         else none)
      else if d = 20 then (if n = b!"3" then some 22 else none)
      else if d = 30 then (if n = b!"dev" then some 32 else none)
      else if d = 34 then (if n = b!"x" then some 36 else none)
      else none
    parent := fun d => if d = 14 ∨ d = 34 then 10 else if d = 20 ∨ d = 30 then 14 else 10
    body := fun d =>
      if d = 12 then b!"100" else if d = 28 then b!"self/net" else if d = 38 then b!"self/mounts"
      else if d = 18 then b!"/usr/bin/x" else if d = 24 then b!"/tmp" else b!"/proc/100/fd/pipe"
    mnt := fun d => if d = 26 ∨ d = 34 ∨ d = 36 then 2 else 1
    kernelLinks := 40 }

theorem exampleWorld_wf : PWF exampleWorld where
  base_nonneg := by decide
  base_dir := by decide
  child_nonneg := by
    -- the table is a cascade of `if`s over `d` and `n`: push the check to its leaves, each `none` or a numeral
    intro d n
    apply all_nonneg
    simp only [exampleWorld, apply_ite (Option.all _), Option.all_some, Option.all_none, Int.reduceLE, decide_true,
      ite_self]
  lnk_body := by
    intro l h
    have hl : l ∈ [(12 : Fd), 28, 38] := (kind_by_lists h).1 rfl
    clear h
    revert l
    decide
  magic_body := by
    intro l h
    have hl : l ∈ [(18 : Fd), 22, 24] := (kind_by_lists h).2 rfl
    clear h
    revert l
    decide

/-- the hypotheses of the main theorem are satisfiable: `net/dev` (through two symlinks) with `O_PATH|O_NOFOLLOW` -/
example :
    Prog.prun exampleWorld (Procfs.opathResolve exampleWorld.base b!"net/dev" (O_PATH ||| O_NOFOLLOW) 0) =
      toOutP (resolveBeneath exampleWorld { oflags := O_PATH ||| O_NOFOLLOW, noSymlinks := hasAll 0 RESOLVE_NO_SYMLINKS,
                                            maxLinks := MAX_SYMLINK_TRAVERSALS } b!"net/dev") :=
  opathResolve_spec exampleWorld_wf _ (by decide) (by decide) _ _ (Or.inl (by decide))

end KProc
