import Pathrs.Proofs.KProc

/-!
# `ProcfsHandle::open` and the following half of `open_follow` on a procfs tree with mounts (`PWorld`)

The layers above the resolvers, run on a world for a handle that is not masked and uses the emulated resolver:
`open_base` and the verified lookup below it compute `openSpec`; the following half of `open_follow`, whose last step
is the library's only `openat` that lets the kernel follow a link, computes `followSpec`.  What `followSpec` returns is
what a link leads to that is an entry, on the handle's own mount, of a directory on the handle's own mount — never an
object mounted over a component or over the link itself (`follow_result_on_own_mount`).
-/

open K PWorld KProc

namespace KProcOpen

variable {w : PWorld}

/-- the same tree seen from another starting directory -/
def rebase (w : PWorld) (d : Fd) : PWorld := { w with base := d }

theorem answer_rebase (w : PWorld) (d : Fd) : (rebase w d).answer = w.answer := by
  funext c; cases c <;> rfl

theorem prun_rebase {α : Type} (w : PWorld) (d : Fd) (p : Prog α) : Prog.prun (rebase w d) p = Prog.prun w p := by
  induction p with
  | ret a => rfl
  | call c k ih =>
    show Prog.prun (rebase w d) (k ((rebase w d).answer c)) = Prog.prun w (k (w.answer c))
    rw [answer_rebase]; exact ih _

theorem PWF.rebase (hw : PWF w) (d : Fd) (hd : 0 ≤ d) (hk : w.kind d = .dir) : PWF (rebase w d) :=
  ⟨hd, hk, hw.child_nonneg, hw.lnk_body, hw.magic_body⟩

/-- the handle whose root is the world's base directory: its mount id is known, it is not masked, it uses the
emulated resolver -/
def handleOf (w : PWorld) : ProcH := { fd := w.base, mntId := some (w.mnt w.base), isSubset := false, emulated := true }

def ecfgP (oflags : Nat) : PCfg := { oflags := oflags, noSymlinks := false, maxLinks := MAX_SYMLINK_TRAVERSALS }

/-- specification of `ProcfsHandle::open(base, sub, oflags)`: the confined lookup of the base directory from the
handle's root, then the confined no-follow lookup of the sub-path from there -/
def openSpec (w : PWorld) (bp sub : Bytes) (oflags : Nat) : Except Nat Fd :=
  match resolveBeneath w (ecfgP (O_PATH ||| O_DIRECTORY)) bp with
  | .error e => .error e
  | .ok b => resolveBeneath (rebase w b) (ecfgP (oflags ||| O_NOFOLLOW)) sub

/-- specification of the following half of `open_follow` -/
def followSpec (w : PWorld) (bp parent trailing : Bytes) (fl : Nat) : Except Nat Fd :=
  match openSpec w bp parent (O_PATH ||| O_DIRECTORY) with
  | .error e => .error e
  | .ok d =>
    match w.lookup d trailing with
    | .error e => .error e
    | .ok l => if w.mnt l ≠ w.mnt d then .error EXDEV else followOpen w d trailing (fl ||| O_CLOEXEC ||| O_NOCTTY)

theorem openKind_ok_dir (k : PKind) (fl : Nat) (hd : hasAll fl O_DIRECTORY = true) (h : openKind k fl = .ok ()) :
    k = .dir := by
  cases k <;> simp [openKind, hd] at h ⊢

/-- without `..` in the path (link bodies never contain one, `PWF.lnk_body`), a confined lookup only ever returns the
starting directory or a `child`, hence a non-negative number; and `O_DIRECTORY` makes the final `open` refuse everything
but a directory -/
theorem resolveBeneath_nonneg_dir (hw : PWF w) (c : PCfg) (path : Bytes)
    (hdd : Path.dotdot ∉ Path.rawComponents path) (r : Fd) (h : resolveBeneath w c path = .ok r) :
    0 ≤ r ∧ (hasAll c.oflags O_DIRECTORY = true → w.kind r = .dir) := by
  refine presolve_ok (motive := fun cur rem _ r => 0 ≤ cur → Path.dotdot ∉ rem →
      0 ≤ r ∧ (hasAll c.oflags O_DIRECTORY = true → w.kind r = .dir)) ?_ ?_ ?_
    _ _ _ _ (KPath.splitSlash_ne_nil _) (resolveBeneath_ok h).2 hw.base_nonneg hdd
  · intro cur x _ nxt hop ho hc hd
    have hx : x ≠ Path.dotdot := fun hx => hd (hx ▸ List.mem_cons_self)
    exact ⟨lookup_nonneg hw hc (dotOr_ne_dotdot hx) hop.lookup, fun hD => openKind_ok_dir _ _ hD (ho hx)⟩
  · intro cur x rest _ nxt r hop _ ih hc hd
    exact ih (lookup_nonneg hw hc (dotOr_ne_dotdot fun hx => hd (hx ▸ List.mem_cons_self)) hop.lookup)
      fun hm => hd (List.mem_cons_of_mem _ hm)
  · intro cur x rest _ l r _ _ hk _ _ _ ih hc hd
    exact ih hc fun hm => (List.mem_append.mp hm).elim (hw.lnk_body l hk).2.2.2 fun h' => hd (List.mem_cons_of_mem _ h')

/-- `hdd` (no `..` component in the path) is needed: a `..` step returns `w.parent cur`, and `PWF` says nothing about
`parent`.  With `base = 0`, `kind 0 = kind 1 = dir`, `child 0 "a" = some 1`, `parent 1 = -5`, one mount and no links
(`PWF` holds), `resolveBeneath w ⟨O_PATH|O_DIRECTORY, false, 128⟩ "a/.."` is `.ok (-5)`: the last step only runs
`openKind .dir`, it does not look at `kind (-5)`.  The base paths `.`, `self`, `thread-self` have no `..`, and the emulated
resolver refuses `..` outright. -/
theorem resolveBeneath_dir (hw : PWF w) (c : PCfg) (hdir : hasAll c.oflags O_DIRECTORY = true) (path : Bytes)
    (hdd : Path.dotdot ∉ Path.rawComponents path) (r : Fd)
    (h : resolveBeneath w c path = .ok r) : 0 ≤ r ∧ w.kind r = .dir :=
  let ⟨h1, h2⟩ := resolveBeneath_nonneg_dir hw c path hdd r h
  ⟨h1, h2 hdir⟩

/-- the base directory of `/proc/self` and `/proc` lookups; for `thread-self` the existence probe of the first
candidate must succeed on this world (hypothesis of the theorems below) -/
def basePath : Procfs.Base → Bytes
  | .root => Path.dot
  | .self => b!"self"
  | .threadSelf => b!"thread-self"

theorem basePath_ok (base : Procfs.Base) : basePath base ≠ [] ∧ Path.dotdot ∉ Path.rawComponents (basePath base) := by
  cases base <;> decide

theorem prun_fstatfs (d : Fd) (hd : 0 ≤ d) : Prog.prun w (Sys.fstatfs d) = .ok PROC_SUPER_MAGIC :=
  (prun_wrapper hd _ _).trans rfl

theorem prun_verifyIsProcfs (d : Fd) (hd : 0 ≤ d) : Prog.prun w (Procfs.verifyIsProcfs d) = .ok () :=
  (prun_mbind_ok w _ _ _ (prun_fstatfs d hd)).trans rfl

theorem prun_verifySameProcfsMnt (d : Fd) (hd : 0 ≤ d) (hm : w.mnt d = w.mnt w.base) :
    Prog.prun w (Procfs.verifySameProcfsMnt (handleOf w) d) = .ok () := by
  unfold Procfs.verifySameProcfsMnt handleOf
  simp only [M.bind_def, prun_mbind, prun_verifySameMnt _ d hd, hm, ↓reduceIte, prun_verifyIsProcfs d hd]

theorem creation_or_nofollow (fl : Nat) :
    (hasAny (fl ||| O_NOFOLLOW) (O_CREAT ||| O_EXCL) || hasAll (fl ||| O_NOFOLLOW) O_TMPFILE) =
      (hasAny fl (O_CREAT ||| O_EXCL) || hasAll fl O_TMPFILE) := by
  unfold hasAny
  rw [or_and_disj _ _ _ (by decide), hasAll_or_disj_right _ _ _ (by decide)]

theorem prun_resolve_at (hw : PWF w) (env : Env) (b : Fd) (hb : 0 ≤ b) (hk : w.kind b = .dir) (path : Bytes)
    (hp : path ≠ []) (hdd : Path.dotdot ∉ Path.rawComponents path) (oflags : Nat) (hfl : FlagsOk oflags)
    (hcf : (hasAny oflags (O_CREAT ||| O_EXCL) || hasAll oflags O_TMPFILE) = false) :
    Prog.prun w (Procfs.resolve env true b path oflags 0) = toOutP (resolveBeneath (rebase w b) (ecfgP oflags) path) := by
  unfold Procfs.resolve
  simp only [hcf, Bool.false_eq_true, ↓reduceIte]
  exact (prun_rebase w b _).symm.trans
    (opathResolve_spec (w := rebase w b) (PWF.rebase hw b hb hk) path hp hdd oflags 0 hfl)

theorem prun_lookupVerified (hw : PWF w) (env : Env) (b : Fd) (hb : 0 ≤ b) (hk : w.kind b = .dir)
    (hmb : w.mnt b = w.mnt w.base) (path : Bytes)
    (hp : path ≠ []) (hdd : Path.dotdot ∉ Path.rawComponents path) (oflags : Nat) (hfl : FlagsOk oflags)
    (hcf : (hasAny oflags (O_CREAT ||| O_EXCL) || hasAll oflags O_TMPFILE) = false) :
    Prog.prun w (Procfs.lookupVerified env (handleOf w) b path oflags) =
      toOutP (resolveBeneath (rebase w b) (ecfgP oflags) path) := by
  unfold Procfs.lookupVerified
  have hres := prun_resolve_at hw env b hb hk path hp hdd oflags hfl hcf
  cases hr : resolveBeneath (rebase w b) (ecfgP oflags) path with
  | error e =>
    rw [hr] at hres
    exact prun_mbind_err w _ _ _ hres
  | ok fd =>
    rw [hr] at hres
    have h0 := (resolveBeneath_nonneg_dir (PWF.rebase hw b hb hk) _ path hdd fd hr).1
    have hm : w.mnt fd = w.mnt w.base := (resolveBeneath_same_mnt (w := rebase w b) _ path fd hr).trans hmb
    exact (prun_mbind_ok w _ _ _ hres).trans (prun_mbind_onErr_ok w (prun_verifySameProcfsMnt fd h0 hm) _ _)

theorem prun_openBase (hw : PWF w) (env : Env) (base : Procfs.Base)
    (hprobe : Prog.prun w (Procfs.intoPath base w.base) = .ok (basePath base)) :
    Prog.prun w (Procfs.openBase env (handleOf w) base) =
      toOutP (resolveBeneath w (ecfgP (O_PATH ||| O_DIRECTORY)) (basePath base)) := by
  exact (prun_mbind_ok w _ _ _ hprobe).trans <|
    prun_lookupVerified hw env w.base hw.base_nonneg hw.base_dir rfl (basePath base) (basePath_ok base).1
      (basePath_ok base).2 (O_PATH ||| O_DIRECTORY) (Or.inr (Or.inl (hasAll_or_right _ _))) (by decide)

/-- `ProcfsHandle::open` on a world, for a handle that is not masked, with the emulated resolver: the specification.
(`hprobe`: the base path is what `into_path` yields on this world — trivially true for `root` and `self`.) -/
theorem prun_openH (hw : PWF w) (env : Env) (base : Procfs.Base) (sub : Bytes) (oflags : Nat) (fuel : Nat)
    (hprobe : Prog.prun w (Procfs.intoPath base w.base) = .ok (basePath base))
    (hsub : sub ≠ []) (hdd : Path.dotdot ∉ Path.rawComponents sub)
    (hcf : (hasAny oflags (O_CREAT ||| O_EXCL) || hasAll oflags O_TMPFILE) = false) :
    Prog.prun w (Procfs.openH env (fuel + 1) (handleOf w) base sub oflags) =
      toOutP (openSpec w (basePath base) sub oflags) := by
  rw [Procfs.openH]
  unfold Procfs.openStep openSpec
  refine (prun_mbind w _ _).trans ?_
  rw [prun_openBase hw env base hprobe]
  cases hr : resolveBeneath w (ecfgP (O_PATH ||| O_DIRECTORY)) (basePath base) with
  | error e => rfl
  | ok b =>
    obtain ⟨hb, hk⟩ := resolveBeneath_dir hw _ (hasAll_or_left _ _) _ (basePath_ok base).2 b hr
    have hmb := resolveBeneath_same_mnt _ _ _ hr
    have hlv := prun_lookupVerified hw env b hb hk hmb sub hsub hdd (oflags ||| O_NOFOLLOW)
      (Or.inl (hasAll_or_left _ _)) ((creation_or_nofollow oflags).trans hcf)
    dsimp only
    cases hs : resolveBeneath (rebase w b) (ecfgP (oflags ||| O_NOFOLLOW)) sub with
    | error e =>
      rw [hs] at hlv
      exact (prun_mbind_try_err w hlv rfl _).trans <|
        (congrArg (Prog.prun w) (if_neg fun h => Bool.false_ne_true h.1)).trans (prun_mbind_lift w _ _)
    | ok fd =>
      rw [hs] at hlv
      exact (prun_mbind_try_ok w hlv _).trans (prun_mbind_lift w _ _)

theorem lookup_err (d : Fd) (n : Bytes) (e : Nat) (h : w.lookup d n = .error e) : e = ENOTDIR ∨ e = ENOENT := by
  unfold PWorld.lookup at h
  split at h
  · cases h; exact Or.inl rfl
  · split at h
    · cases h
    · split at h
      · cases h
      · split at h
        · cases h
        · cases h; exact Or.inr rfl

theorem prun_statx_name (d : Fd) (hd : 0 ≤ d) (n : Bytes) (hn : n ≠ []) :
    Prog.prun w (Sys.statx d n STATX_WANT) =
      match w.lookup d n with
      | .ok c => .ok (STATX_WANT, w.mnt c)
      | .error e => .error (.os e) := by
  refine (prun_wrapper hd _ _).trans ?_
  rw [PWorld.answer, if_neg hn]
  cases w.lookup d n with
  | error e => exact prun_failWith_simp w _ _
  | ok c => rfl

theorem prun_fetchMntId_name (d : Fd) (hd : 0 ≤ d) (n : Bytes) (hn : n ≠ []) :
    Prog.prun w (Procfs.fetchMntId d n) =
      match w.lookup d n with
      | .ok c => .ok (some (w.mnt c))
      | .error e => .error (.os e) := by
  have hst := prun_statx_name (w := w) d hd n hn
  cases hl : w.lookup d n with
  | ok c =>
    rw [hl] at hst
    exact (prun_mbind_try_ok w hst _).trans (congrArg (fun o => Except.ok o) (if_pos hasAny_statxWant))
  | error e =>
    rw [hl] at hst
    have hne : ¬ (e = ENOSYS ∨ e = EINVAL) := by
      rcases lookup_err d n e hl with h | h <;> rw [h] <;> decide
    exact (prun_mbind_try_err w hst rfl _).trans (congrArg (Prog.prun w) (if_neg hne))

theorem openSpec_ok (bp sub : Bytes) (oflags : Nat) (d : Fd) (h : openSpec w bp sub oflags = .ok d) :
    ∃ b, resolveBeneath w (ecfgP (O_PATH ||| O_DIRECTORY)) bp = .ok b ∧
      resolveBeneath (rebase w b) (ecfgP (oflags ||| O_NOFOLLOW)) sub = .ok d := by
  unfold openSpec at h
  split at h
  · cases h
  · exact ⟨_, ‹_›, h⟩

theorem openSpec_eq {bp : Bytes} {b : Fd} (hb : resolveBeneath w (ecfgP (O_PATH ||| O_DIRECTORY)) bp = .ok b)
    (sub : Bytes) (oflags : Nat) :
    openSpec w bp sub oflags = resolveBeneath (rebase w b) (ecfgP (oflags ||| O_NOFOLLOW)) sub := by
  unfold openSpec
  rw [hb]

theorem openSpec_same_mnt (bp sub : Bytes) (oflags : Nat) (d : Fd) (h : openSpec w bp sub oflags = .ok d) :
    w.mnt d = w.mnt w.base :=
  let ⟨b, hb, hd⟩ := openSpec_ok bp sub oflags d h
  (resolveBeneath_same_mnt (w := rebase w b) _ _ _ hd).trans (resolveBeneath_same_mnt _ _ _ hb)

theorem openSpec_fd_nonneg (hw : PWF w) (base : Procfs.Base) (sub : Bytes) (oflags : Nat)
    (hdd : Path.dotdot ∉ Path.rawComponents sub) (d : Fd) (h : openSpec w (basePath base) sub oflags = .ok d) :
    0 ≤ d := by
  obtain ⟨b, hrb, hrd⟩ := openSpec_ok _ _ _ _ h
  obtain ⟨hb, hkb⟩ := resolveBeneath_dir hw _ (hasAll_or_left _ _) _ (basePath_ok base).2 b hrb
  exact (resolveBeneath_nonneg_dir (PWF.rebase hw b hb hkb) _ _ hdd d hrd).1

theorem prun_openFollowTail (hw : PWF w) (env : Env) (base : Procfs.Base) (sub parent trailing : Bytes) (fl : Nat)
    (hprobe : Prog.prun w (Procfs.intoPath base w.base) = .ok (basePath base))
    (hsplit : Path.pathSplit sub = .ok (parent, some trailing)) (htr : trailing ≠ [])
    (hpar : parent ≠ []) (hdd : Path.dotdot ∉ Path.rawComponents parent) :
    Prog.prun w (Procfs.openFollowTail env (handleOf w) base sub fl) =
      toOutP (followSpec w (basePath base) parent trailing fl) := by
  unfold Procfs.openFollowTail followSpec
  refine (prun_mbind_ok w _ _ _ ((prun_do_monadLiftE w _).trans hsplit)).trans ?_
  refine (prun_mbind w _ _).trans ?_
  rw [Procfs.retryFuel_eq, prun_openH hw env base parent (O_PATH ||| O_DIRECTORY) 63 hprobe hpar hdd (by decide)]
  cases hs : openSpec w (basePath base) parent (O_PATH ||| O_DIRECTORY) with
  | error e => rfl
  | ok d =>
    have hd := openSpec_fd_nonneg hw base parent _ hdd d hs
    refine (prun_mbind_onErr_ok w (prun_fetchMntId d hd) _ _).trans ?_
    have hf := prun_fetchMntId_name (w := w) d hd trailing htr
    dsimp only
    cases hl : w.lookup d trailing with
    | error e =>
      rw [hl] at hf
      exact prun_mbind_err w _ _ _ ((prun_onErr_simp w _ _).trans (prun_mbind_err w _ _ _ hf))
    | ok l =>
      rw [hl] at hf
      dsimp only
      by_cases hm : w.mnt l = w.mnt d
      · rw [if_neg (not_not_intro hm)]
        have hv : Prog.prun w (Procfs.verifySameMnt (some (w.mnt d)) d trailing) = .ok () :=
          (prun_mbind_ok w _ _ _ hf).trans (congrArg (Prog.prun w) (if_neg (not_not_intro (congrArg some hm.symm))))
        exact (prun_mbind_onErr_ok w hv _ _).trans ((prun_try_then w _ _).trans (prun_openatFollow d hd _ _ _))
      · rw [if_pos hm]
        refine prun_mbind_err w _ _ _ ((prun_onErr_simp w _ _).trans ((prun_mbind_ok w _ _ _ hf).trans ?_))
        exact congrArg (Prog.prun w) (if_pos fun h => hm (Option.some.inj h).symm)

theorem followOpen_ok {d l o : Fd} {t : Bytes} {fl : Nat} (hl : w.lookup d t = .ok l)
    (h : followOpen w d t fl = .ok o) :
    (hasAll fl O_NOFOLLOW = false → w.kind l = .magic → w.target l = some o) ∧
    (hasAll fl O_NOFOLLOW = false → w.kind l = .lnk → w.follow l = .ok o) ∧
    (isLink (w.kind l) = false → o = l) := by
  unfold followOpen at h
  rw [hl] at h
  refine ⟨fun hnf hk => ?_, fun hnf hk => ?_, fun hk => ?_⟩
  · have hlk : isLink PKind.magic = true := rfl
    simp only [hnf, hk, hlk, Bool.not_true, Bool.or_self, Bool.false_eq_true, ↓reduceIte] at h
    cases ht : w.target l with
    | none => rw [ht] at h; cases h
    | some t' => rw [ht] at h; exact congrArg some ((match_ok_iff _ _ _).1 h).2
  · have hlk : isLink PKind.lnk = true := rfl
    simp only [hnf, hk, hlk, Bool.not_true, Bool.or_self, Bool.false_eq_true, ↓reduceIte, reduceCtorEq] at h
    cases ht : w.follow l with
    | error e => rw [ht] at h; cases h
    | ok t' => rw [ht] at h; exact congrArg Except.ok ((match_ok_iff _ _ _).1 h).2
  · simp only [hk, Bool.not_false, Bool.or_true, ↓reduceIte] at h
    exact ((match_ok_iff _ _ _).1 h).2.symm

/-- **Whatever is mounted wherever**: what the following half of `open_follow` returns is reached through a link `l`
that is an entry of a directory `d`, both on the handle's own mount — never through anything that was mounted over a
component of the path or over the link itself; and when `l` is a magic-link, the result is its target. -/
theorem follow_result_on_own_mount (hw : PWF w) (bp parent trailing : Bytes) (fl : Nat) (o : Fd)
    (h : followSpec w bp parent trailing fl = .ok o) :
    ∃ d l, w.mnt d = w.mnt w.base ∧ w.lookup d trailing = .ok l ∧ w.mnt l = w.mnt w.base ∧
      (hasAll fl O_NOFOLLOW = false → w.kind l = .magic → w.target l = some o) ∧
      (isLink (w.kind l) = false → o = l) := by
  unfold followSpec at h
  split at h
  · cases h
  · rename_i d hs
    have hmd := openSpec_same_mnt _ _ _ _ hs
    split at h
    · cases h
    · rename_i l hl
      split at h
      · cases h
      · rename_i hm
        have hm' : w.mnt l = w.mnt d := Decidable.of_not_not hm
        obtain ⟨h1, _, h3⟩ := followOpen_ok hl h
        exact ⟨d, l, hmd, hl, hm'.trans hmd, fun hnf => h1 ((nofollow_forced fl).trans hnf), h3⟩

/-- `KProc.exampleWorld` in which the magic-link `100/fd/3` (object 22) leads to an object 50 that is not part of the
procfs tree -/
def exampleWorldT : PWorld := { exampleWorld with target := fun d => if d = 22 then some 50 else none }

theorem exampleWorldT_wf : PWF exampleWorldT :=
  ⟨exampleWorld_wf.base_nonneg, exampleWorld_wf.base_dir, exampleWorld_wf.child_nonneg, exampleWorld_wf.lnk_body,
    exampleWorld_wf.magic_body⟩

example : followSpec exampleWorldT b!"self" b!"fd" b!"3" O_RDONLY = .ok 50 := by
  have h1 : resolveBeneath exampleWorldT (ecfgP (O_PATH ||| O_DIRECTORY)) b!"self" = .ok 14 := by
    rw [resolveBeneath_eq _ _ (by decide) (by decide)]
    show presolve exampleWorldT _ 10 [b!"self"] 0 = _
    rw [p_step (by decide)]
    show presolve exampleWorldT _ 10 [b!"100"] 1 = _
    rw [p_step (by decide)]
    rfl
  have h2 : resolveBeneath (rebase exampleWorldT 14) (ecfgP (O_PATH ||| O_DIRECTORY ||| O_NOFOLLOW)) b!"fd" = .ok 20 := by
    rw [resolveBeneath_eq _ _ (by decide) (by decide)]
    show presolve (rebase exampleWorldT 14) _ 14 [b!"fd"] 0 = _
    rw [p_step (by decide)]
    rfl
  unfold followSpec
  rw [openSpec_eq h1, h2]
  rfl

example (env : Env) :
    Prog.prun exampleWorldT (Procfs.openFollowTail env (handleOf exampleWorldT) .self b!"fd/3" O_RDONLY) =
      toOutP (followSpec exampleWorldT b!"self" b!"fd" b!"3" O_RDONLY) :=
  prun_openFollowTail exampleWorldT_wf env .self b!"fd/3" b!"fd" b!"3" O_RDONLY rfl rfl (by decide) (by decide)
    (by decide)

end KProcOpen
