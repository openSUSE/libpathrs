import Pathrs.Ledger
import Pathrs.Replay
import Pathrs.Proofs.Sat

/-!
# A Hoare-style logic for the descriptor ledger

`Led ext pre p g`: started owning the descriptors `pre`, every run of `p` in which the kernel hands out only
numbers that are not open keeps the ledger defined and ends owning `g a` when it returns `a`, and nothing
when it fails — unless the run ends in a fatal model error.  Owned descriptors are lists up to permutation;
that they are pairwise distinct and not negative is an invariant of the ledger (`ledger_good`) and so never has to
be said.  What the program does not touch is not mentioned: the caller's side `ext` of `Fresh` is the frame, and
`LedG.frame` moves descriptors between it and the owned list.
-/

open Ledger

namespace LedgerLogic

/- Sets of descriptors as predicates.  No proof uses `FdSet` or `ins`: owned descriptors are lists here. -/
abbrev FdSet := Fd → Prop

def ins (a : Fd) (S : FdSet) : FdSet := fun x => x = a ∨ S x

theorem ne_close {c : Call} (h : isClose c = false) (n : Fd) : c ≠ .close n := fun hc => by subst hc; cases h

theorem step_of_not_close {c : Call} (hnc : ∀ n, c ≠ .close n) (o : List Fd) (r : Resp) :
    step o c r = some ((produced c r).toList ++ o) := by
  rw [step.eq_2 _ _ _ fun n h => hnc n h]
  cases produced c r <;> rfl

theorem ledger_append (o : List Fd) (l1 l2 : Hist) :
    ledger o (l1 ++ l2) = (ledger o l1).bind fun o' => ledger o' l2 := by
  -- by the clauses of `ledger`: no call; a call on which `step` is defined, and then the rest; one on which it is not
  fun_induction ledger o l1 with
  | case1 => rfl
  | case2 o c r t o' hs ih => rw [List.cons_append, ledger, hs]; exact ih
  | case3 o c r t hs => rw [List.cons_append, ledger, hs]; rfl

theorem fresh_append (ext o : List Fd) (l1 l2 : Hist) :
    Fresh ext o (l1 ++ l2) ↔ (Fresh ext o l1 ∧ ∀ o', ledger o l1 = some o' → Fresh ext o' l2) := by
  fun_induction ledger o l1 with
  | case1 o => exact ⟨fun h => ⟨trivial, fun _ e => Option.some.inj e ▸ h⟩, fun h => h.2 _ rfl⟩
  | case2 o c r t o' hs ih => simp only [List.cons_append, Fresh, hs, ih, and_assoc]
  | case3 o c r t hs => simp only [List.cons_append, Fresh, hs, and_true, reduceCtorEq, false_imp_iff, implies_true]

theorem _root_.Ledger.Fresh.tail {ext o o1 : List Fd} {c : Call} {r : Resp} {t : Hist}
    (hf : Fresh ext o ((c, r) :: t)) (hs : step o c r = some o1) : Fresh ext o1 t := by
  simpa only [hs] using hf.2

/-- One step of the ledger, seen from a ledger `os` and from a larger one `ob ~ os ++ own`: what the kernel
promises with respect to the large one it promises with respect to the small one once `own` is counted among
the caller's descriptors, and a step that is defined on the small one is defined on the large one and keeps
`own`. -/
theorem step_frame (ext own ob os : List Fd) (c : Call) (r : Resp) (hp : ob.Perm (os ++ own))
    (hf : ∀ n, produced c r = some n → 0 ≤ n ∧ n ∉ ext ∧ n ∉ ob) :
    (∀ n, produced c r = some n → 0 ≤ n ∧ n ∉ own ++ ext ∧ n ∉ os) ∧
    ∀ os', step os c r = some os' → ∃ ob', step ob c r = some ob' ∧ ob'.Perm (os' ++ own) := by
  refine ⟨fun n hn => ?_, fun os' hs => ?_⟩
  · obtain ⟨h0, h1, h2⟩ := hf n hn
    refine ⟨h0, fun hm => ?_, fun hm => h2 (hp.mem_iff.mpr (List.mem_append_left _ hm))⟩
    exact (List.mem_append.mp hm).elim (fun hm => h2 (hp.mem_iff.mpr (List.mem_append_right _ hm))) h1
  · by_cases hc : ∃ n, c = .close n
    · obtain ⟨n, rfl⟩ := hc
      simp only [step] at hs ⊢
      split at hs
      · rename_i hn
        cases hs
        rw [if_pos (hp.mem_iff.mpr (List.mem_append_left _ hn))]
        exact ⟨_, rfl, by simpa only [List.erase_append_left _ hn] using hp.erase n⟩
      · cases hs
    · rw [step_of_not_close fun n h => hc ⟨n, h⟩] at hs ⊢
      cases hs
      exact ⟨_, rfl, by simpa only [List.append_assoc] using hp.append_left _⟩

theorem ledger_frame (ext own : List Fd) (l : Hist) : ∀ ob os : List Fd, ob.Perm (os ++ own) →
    Fresh ext ob l → Fresh (own ++ ext) os l ∧
      ∀ o, ledger os l = some o → ∃ o', ledger ob l = some o' ∧ o'.Perm (o ++ own) := by
  intro ob os
  fun_induction ledger os l generalizing ob with
  | case1 os => exact fun hp _ => ⟨trivial, fun o ho => ⟨ob, rfl, Option.some.inj ho ▸ hp⟩⟩
  | case2 os c r t os' hs ih =>
    intro hp hf
    obtain ⟨h1, h2⟩ := step_frame ext own ob os c r hp hf.1
    obtain ⟨ob', hb, hp'⟩ := h2 os' hs
    obtain ⟨h3, h4⟩ := ih ob' hp' (hf.tail hb)
    exact ⟨⟨h1, by rw [hs]; exact h3⟩, by rw [ledger, hb]; exact h4⟩
  | case3 os c r t hs =>
    exact fun hp hf => ⟨⟨(step_frame ext own ob os c r hp hf.1).1, by rw [hs]; trivial⟩, nofun⟩

/-- What `Fresh` keeps true of the owned list: no number twice, none negative. -/
def Good (o : List Fd) : Prop := o.Nodup ∧ ∀ x ∈ o, 0 ≤ x

theorem Good.nil : Good [] := ⟨List.nodup_nil, fun _ h => nomatch h⟩

theorem step_good {ext o o' : List Fd} {c : Call} {r : Resp} (hg : Good o)
    (hf : ∀ n, produced c r = some n → 0 ≤ n ∧ n ∉ ext ∧ n ∉ o) (hs : step o c r = some o') : Good o' := by
  revert hs
  -- by the clauses of `step`: a `close` of an owned descriptor, of another one; a call that hands one out, or none
  fun_cases step o c r with
  | case1 n hn => exact fun hs => Option.some.inj hs ▸ ⟨hg.1.erase n, fun x hx => hg.2 x (List.mem_of_mem_erase hx)⟩
  | case2 => exact nofun
  | case3 c n hp =>
    obtain ⟨h0, _, hn⟩ := hf n hp
    rw [hp]
    exact fun hs => Option.some.inj hs ▸
      ⟨List.nodup_cons.mpr ⟨hn, hg.1⟩, fun x hx => (List.mem_cons.mp hx).elim (· ▸ h0) (hg.2 x)⟩
  | case4 c hp => rw [hp]; exact fun hs => Option.some.inj hs ▸ hg

theorem ledger_good {ext : List Fd} (l : Hist) :
    ∀ {o o' : List Fd}, Good o → Fresh ext o l → ledger o l = some o' → Good o' := by
  intro o o'
  fun_induction ledger o l with
  | case1 => exact fun hg _ hl => Option.some.inj hl ▸ hg
  | case2 o c r t o1 hs ih => exact fun hg hf hl => ih (step_good hg hf.1 hs) (hf.tail hs) hl
  | case3 => exact fun _ _ => nofun

/-- general form: `fat a` marks the results for which nothing is claimed -/
def LedG (ext pre : List Fd) (p : Prog α) (fat : α → Prop) (post : α → List Fd) : Prop :=
  ∀ o h l a, Good o → o.Perm pre → Runs p h (h ++ l) a → Fresh ext o l →
    fat a ∨ ∃ o', ledger o l = some o' ∧ o'.Perm (post a)

def LedP (ext pre : List Fd) (p : Prog α) (post : α → List Fd) : Prop :=
  LedG ext pre p (fun _ => False) post

def Fatal : Except Err α → Prop
  | .error e => e.isFatal = true
  | .ok _ => False

def okOr (g : α → List Fd) : Except Err α → List Fd
  | .ok a => g a
  | .error _ => []

def Led (ext pre : List Fd) (p : M α) (g : α → List Fd) : Prop :=
  LedG (α := Except Err α) ext pre p Fatal (okOr g)

variable {ext pre : List Fd}

namespace LedG

theorem ret {a : α} {fat : α → Prop} {post : α → List Fd} (hpre : pre = post a) :
    LedG ext pre (.ret a) fat post := by
  intro o h0 l a' _ hp hr _
  obtain ⟨hh, rfl⟩ := Runs.ret_inv hr
  obtain rfl : l = [] := List.append_right_eq_self.mp hh
  exact Or.inr ⟨o, rfl, hpre ▸ hp⟩

theorem ret_fat {a : α} {fat : α → Prop} {post : α → List Fd} (h : fat a) :
    LedG ext pre (.ret a) fat post := by
  intro o h0 l a' _ _ hr _
  obtain ⟨_, rfl⟩ := Runs.ret_inv hr
  exact Or.inl h

theorem mono {p : Prog α} {fat fat' : α → Prop} {Q post : α → List Fd} {pre' : List Fd}
    (hp : LedG ext pre' p fat Q) (hpre : pre.Perm pre') (hf : ∀ a, fat a → fat' a)
    (hq : ∀ a, (Q a).Perm (post a)) : LedG ext pre p fat' post := by
  intro o h l a hn hperm hr hfr
  rcases hp o h l a hn (hperm.trans hpre) hr hfr with h1 | ⟨o', h1, h2⟩
  · exact Or.inl (hf a h1)
  · exact Or.inr ⟨o', h1, h2.trans (hq a)⟩

/-- what is owned is never negative -/
theorem nonneg {p : Prog α} {fat : α → Prop} {post : α → List Fd}
    (hp : (∀ x ∈ pre, 0 ≤ x) → LedG ext pre p fat post) : LedG ext pre p fat post :=
  fun o h l a hg hperm => hp (fun x hx => hg.2 x (hperm.mem_iff.mpr hx)) o h l a hg hperm

/-- Sequencing.  The second part may use what only a run can tell of the value it is given: that it is a result
of the first part. -/
theorem bind_run {p : Prog α} {f : α → Prog β} {fa : α → Prop} {fb : β → Prop}
    {Q : α → List Fd} {post : β → List Fd}
    (hp : LedG ext pre p fa Q)
    (hfat : ∀ a, fa a → Sat AnyAnswer Top (f a) fb)
    (hf : ∀ a, (∃ h h', Runs p h h' a) → LedG ext (Q a) (f a) fb post) :
    LedG ext pre (Prog.bind p f) fb post := by
  intro o h l b hg hperm hr hfr
  obtain ⟨hm, a, h1, h2⟩ := Runs.bind_inv hr
  obtain ⟨l1, rfl⟩ := h1.isPrefix
  obtain ⟨l2, hl2⟩ := h2.isPrefix
  obtain rfl : l1 ++ l2 = l := by
    rw [List.append_assoc] at hl2
    exact List.append_cancel_left hl2
  rw [fresh_append] at hfr
  rcases hp o h l1 a hg hperm h1 hfr.1 with hfa | ⟨o1, hl1, hq⟩
  · exact Or.inl ((hfat a hfa).of_run ⟨_, _, h2⟩)
  · rw [← List.append_assoc] at h2
    rcases hf a ⟨_, _, h1⟩ o1 (h ++ l1) l2 b (ledger_good l1 hg hfr.1 hl1) hq h2 (hfr.2 o1 hl1)
      with hb | ⟨o2, hl2', hpost⟩
    · exact Or.inl hb
    · exact Or.inr ⟨o2, by rw [ledger_append, hl1]; exact hl2', hpost⟩

theorem bind {p : Prog α} {f : α → Prog β} {fa : α → Prop} {fb : β → Prop}
    {Q : α → List Fd} {post : β → List Fd}
    (hp : LedG ext pre p fa Q)
    (hfat : ∀ a, fa a → Sat AnyAnswer Top (f a) fb)
    (hf : ∀ a, LedG ext (Q a) (f a) fb post) :
    LedG ext pre (Prog.bind p f) fb post :=
  bind_run hp hfat fun a _ => hf a

/-- **Frame rule.**  What is owned besides `pre` is, to `p`, one more part of the caller's side. -/
theorem frame (R : List Fd) {p : Prog α} {fat : α → Prop} {post : α → List Fd}
    (hp : LedG (R ++ ext) pre p fat post) : LedG ext (pre ++ R) p fat (fun a => post a ++ R) := by
  intro o h l a hg hperm hr hfr
  obtain ⟨hfr', hled⟩ := ledger_frame ext R l o pre hperm hfr
  have hgp : Good pre := ⟨(hperm.nodup hg.1).sublist (List.sublist_append_left pre R),
    fun x hx => hg.2 x (hperm.mem_iff.mpr (List.mem_append_left R hx))⟩
  rcases hp pre h l a hgp (.refl _) hr hfr' with hf | ⟨o1, h1, h2⟩
  · exact Or.inl hf
  · obtain ⟨o', ho', hp'⟩ := hled o1 h1
    exact Or.inr ⟨o', ho', hp'.trans (h2.append_right R)⟩

theorem call_gen {c : Call} {k : Resp → Prog α} {fat : α → Prop} {post : α → List Fd}
    (hk : ∀ r o, o.Perm pre → ∃ o' pre', step o c r = some o' ∧ o'.Perm pre' ∧
      LedG ext pre' (k r) fat post) :
    LedG ext pre (.call c k) fat post := by
  intro o h l a hg hperm hr hfr
  obtain ⟨r, hkr⟩ := Runs.call_inv hr
  obtain ⟨t, ht⟩ := hkr.isPrefix
  obtain rfl : (c, r) :: t = l := by
    rw [List.append_assoc] at ht
    exact List.append_cancel_left ht
  obtain ⟨o', pre', hs, hperm', hled⟩ := hk r o hperm
  simp only [Fresh, hs] at hfr
  rw [show h ++ (c, r) :: t = (h ++ [(c, r)]) ++ t by simp] at hkr
  rcases hled o' _ t a (step_good hg hfr.1 hs) hperm' hkr hfr.2 with hf | ⟨o2, h1, h2⟩
  · exact Or.inl hf
  · exact Or.inr ⟨o2, by simp only [ledger, hs]; exact h1, h2⟩

theorem call_close {n : Fd} {R : List Fd} {k : Resp → Prog α} {fat : α → Prop} {post : α → List Fd}
    (hk : ∀ r, LedG ext R (k r) fat post) : LedG ext (n :: R) (.call (.close n) k) fat post := by
  refine call_gen fun r o hperm => ⟨o.erase n, R, ?_, ?_, hk r⟩
  · simp only [step, hperm.mem_iff.mpr List.mem_cons_self, ↓reduceIte]
  · simpa only [List.erase_cons_head] using hperm.erase n

theorem call {c : Call} {k : Resp → Prog α} {fat : α → Prop} {post : α → List Fd}
    (hnc : isClose c = false) (hk : ∀ r, LedG ext ((produced c r).toList ++ pre) (k r) fat post) :
    LedG ext pre (.call c k) fat post :=
  call_gen fun r o hperm => ⟨_, _, step_of_not_close (ne_close hnc) o r, hperm.append_left _, hk r⟩

end LedG

namespace LedP

theorem ret {a : α} {post : α → List Fd} (hpre : pre = post a) : LedP ext pre (.ret a) post := LedG.ret hpre

theorem bind {p : Prog α} {f : α → Prog β} {Q : α → List Fd} {post : β → List Fd}
    (hp : LedP ext pre p Q) (hf : ∀ a, LedP ext (Q a) (f a) post) : LedP ext pre (Prog.bind p f) post :=
  LedG.bind hp (fun _ h => h.elim) hf

theorem close (fd : Fd) (R : List Fd) : LedP ext (fd :: R) (Sys.close fd) (fun _ => R) :=
  LedG.call_close fun _ => LedG.ret rfl

theorem closeList (l R : List Fd) : LedP ext (l ++ R) (Sys.closeList l) (fun _ => R) := by
  induction l with
  | nil => exact ret rfl
  | cons fd rest ih => exact bind (close fd (rest ++ R)) fun _ => ih

end LedP

theorem nodup_eraseDups (l : List Fd) : l.eraseDups.Nodup := by
  generalize hn : l.length = n
  induction n using Nat.strongRecOn generalizing l with
  | _ n ih =>
    cases l with
    | nil => simp
    | cons a t =>
      rw [List.eraseDups_cons, List.nodup_cons]
      constructor
      · rw [List.mem_eraseDups, List.mem_filter]
        simp
      · subst hn
        exact ih _ (Nat.lt_succ_of_le (List.length_filter_le _ _)) _ rfl

/-- `closeAll l` closes the members of `l`, each once, however `l` lists them: it takes a state with the
members of `l` and of `T` to `T` -/
theorem LedP.closeAll_mem (l T : List Fd) (hT : T.Nodup) (hmem : ∀ x, x ∈ pre ↔ x ∈ l ∨ x ∈ T)
    (hd : ∀ x ∈ l, x ∉ T) : LedP ext pre (Sys.closeAll l) (fun _ => T) := by
  intro o h l' a hg hperm
  refine LedP.closeList l.eraseDups T o h l' a hg ((List.perm_ext_iff_of_nodup hg.1 ?_).mpr fun x => ?_)
  · exact List.nodup_append.mpr ⟨nodup_eraseDups l, hT, fun x hx y hy hxy =>
      hd x (List.mem_eraseDups.mp hx) (hxy ▸ hy)⟩
  · rw [hperm.mem_iff, hmem, List.mem_append, List.mem_eraseDups]

theorem LedP.closeAll_of_mem (l : List Fd) (h : ∀ x, x ∈ pre ↔ x ∈ l) :
    LedP ext pre (Sys.closeAll l) fun _ => [] :=
  LedP.closeAll_mem l [] List.nodup_nil (fun x => by simp [h x]) (fun _ _ => List.not_mem_nil)

theorem LedP.closeAll (l : List Fd) : LedP ext l (Sys.closeAll l) (fun _ => []) :=
  LedP.closeAll_of_mem l fun _ => .rfl

namespace Led

variable {g : α → List Fd}

theorem perm {p : M α} {pre' : List Fd} (hpre : pre.Perm pre') (hp : Led ext pre' p g) : Led ext pre p g :=
  LedG.mono hp hpre (fun _ h => h) (fun _ => .refl _)

/-- `split` on a goal that holds the whole rest of a long program is slow; these two only unify -/
theorem ite {c : Prop} [Decidable c] {t e : M α} (ht : c → Led ext pre t g) (he : ¬c → Led ext pre e g) :
    Led ext pre (if c then t else e) g := by
  split
  · exact ht ‹_›
  · exact he ‹_›

theorem dite {c : Prop} [Decidable c] {t : c → M α} {e : ¬c → M α} (ht : ∀ h, Led ext pre (t h) g)
    (he : ∀ h, Led ext pre (e h) g) : Led ext pre (if h : c then t h else e h) g := by
  split
  · exact ht _
  · exact he _

theorem pure {a : α} (hpre : pre = g a) : Led ext pre (Pure.pure a : M α) g := LedG.ret hpre

theorem throw {e : Err} : Led ext [] (MonadExcept.throw e : M α) g := LedG.ret rfl

theorem throw_fatal {e : Err} (h : e.isFatal = true) : Led ext pre (MonadExcept.throw e : M α) g :=
  LedG.ret_fat h

theorem ofExcept {x : Except Err α} (hpre : pre = okOr g x) : Led ext pre (M.ofExcept x) g := by
  cases x <;> exact LedG.ret hpre

theorem ofP {p : Prog (Except Err α)} (hp : LedP ext pre p (okOr g)) : Led ext pre (p : M α) g :=
  LedG.mono hp (.refl _) (fun _ h => h.elim) (fun _ => .refl _)

/-- Sequencing.  The first program fails only with everything released, so nothing else may be owned while it
runs — unless it runs under `onErr`, `try'` or `lift`, whose rules name what is kept as `R`. -/
theorem bind {p : M α} {f : α → M β} {g' : β → List Fd}
    (hp : Led ext pre p g) (hf : ∀ a, Led ext (g a) (f a) g') : Led ext pre (M.bind' p f) g' := by
  refine LedG.bind hp (fun a ha => ?_) fun a => ?_
  · cases a with
    | ok a => exact ha.elim
    | error e => exact .ret ha
  · cases a with
    | ok a => exact hf a
    | error e => exact LedG.ret rfl

theorem onErr (R : List Fd) {p : M α} {c : Prog Unit} (hp : Led (R ++ ext) pre p g)
    (hc : LedP ext R c fun _ => []) : Led ext (pre ++ R) (M.onErr p c) fun a => g a ++ R := by
  refine LedG.bind (LedG.frame R hp) (fun a ha => ?_) fun a => ?_
  · cases a with
    | ok a => exact ha.elim
    | error e => exact (Sat.top c).bind fun _ _ => .ret ha
  · cases a with
    | ok a => exact LedG.ret rfl
    | error e => exact LedG.bind hc (fun _ h => h.elim) fun _ => LedG.ret rfl

theorem try' (R : List Fd) {p : M α} (hp : Led (R ++ ext) pre p g) :
    Led ext (pre ++ R) (M.try' p) fun x => okOr g x ++ R := by
  refine LedG.bind (LedG.frame R hp) (fun a ha => ?_) fun a => ?_
  · cases a with
    | ok a => exact ha.elim
    | error e => exact Sat.ite (fun _ => .ret ha) fun h => (h ha).elim
  · cases a with
    | ok a => exact LedG.ret rfl
    | error e =>
      by_cases he : e.isFatal = true
      · simp only [he, ↓reduceIte]; exact LedG.ret_fat he
      · simp only [he]; exact LedG.ret rfl

theorem lift {p : Prog α} (hp : LedP ext pre p g) : Led ext pre (M.lift p) g :=
  LedG.bind hp (fun _ h => h.elim) fun _ => LedG.ret rfl

theorem call {c : Call} {k : Resp → M α} (hnc : isClose c = false)
    (hk : ∀ r, Led ext ((produced c r).toList ++ pre) (k r) g) : Led ext pre (M.bind' (M.call c) k) g :=
  LedG.call hnc hk

theorem bind_ofExcept {x : Except Err α} {f : α → M β} {g' : β → List Fd} (hf : ∀ a, Led ext [] (f a) g') :
    Led ext [] (M.bind' (M.ofExcept x) f) g' := by
  cases x with
  | ok a => exact hf a
  | error e => exact throw

theorem close_then {k : M β} {g' : β → List Fd} (fd : Fd) {R : List Fd} (hk : Led ext R k g') :
    Led ext (fd :: R) (M.bind' (M.lift (Sys.close fd)) fun _ => k) g' :=
  (lift (LedP.close fd R)).bind fun _ => hk

theorem closeAll_then {k : M β} {g' : β → List Fd} (l : List Fd) {R : List Fd} (hk : Led ext R k g') :
    Led ext (l ++ R) (M.bind' (M.lift (Sys.closeAll l)) fun _ => k) g' :=
  (lift (LedG.frame R (LedP.closeAll l))).bind fun _ => hk

/-- a drop at the end of a scope: `p` runs while `R` is held, then `c` releases `R` whatever `p` returned -/
theorem try_then (R : List Fd) {p : M α} {c : Prog Unit} (hp : Led (R ++ ext) pre p g)
    (hc : ∀ ext', LedP ext' R c fun _ => []) :
    Led ext (pre ++ R) (M.bind' (M.try' p) fun r => M.bind' (M.lift c) fun _ => M.ofExcept r) g :=
  (hp.try' R).bind fun r => perm List.perm_append_comm
    ((lift (LedG.frame (okOr g r) (hc _))).bind fun _ => ofExcept rfl)

end Led

end LedgerLogic
