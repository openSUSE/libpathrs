import Pathrs.Proofs.Props.C05
import Pathrs.Proofs.LedgerProofs
import Pathrs.Proofs.SessionLedger

/-!
# C11 — calls leave the descriptor table unchanged except for the returned fd

What is proved here, for every environment (every sequence of kernel answers, hence every placement of failing
calls, every attacker schedule, every racing caller):

* every call by which any operation can obtain a descriptor asks the kernel for close-on-exec — so in particular
  the one descriptor that is returned is close-on-exec (`C11_*_cloexec`);
* **descriptor balance** (`C11_balance_*`, from `Proofs/Ledger*.lean`): walk through the calls of a run
  with a ledger (`Pathrs/Ledger.lean`: a call whose answer hands out a descriptor adds it, a `close` removes it, and
  the ledger is undefined if the program closes a number it was not handed in that run — in particular one of the
  caller's).  If the kernel hands out only numbers that are not open (`Fresh`), then for `resolve`/`resolve_nofollow`,
  `open_subpath`, `reopen`, `readlink`, `create`, `create_file`, `remove_file`/`remove_dir`, `rename`, `mkdir_all`,
  `remove_all` (and, in `Proofs/LedgerProofs.lean`, for the partial lookup and the unmasked-handle constructor:
  `resolvePartial_balanced`, `newUnmasked_balanced`) the ledger is defined and what is left open at
  the end is exactly the descriptor being returned — nothing on an error — unless the run ended in a fatal model
  error (an answer of an impossible shape, exhausted model fuel).  Shared ownership (`Rc<OwnedFd>`) is modelled by
  descriptor numbers; freshness is what makes number identity ownership identity.
* **the process-global handle** (`C11_session_at_most_one_long_lived`, `C11_session_filled`, over `Pathrs/Session.lean`):
  after any sequence of descriptor-returning library calls of one process, each balanced on its own, the ledger holds
  the descriptors returned to the caller plus at most one, the cell's; once the cell is filled no call creates another.

The model's explicit `close` calls mirror Rust's drops by hand; the tie checks on every replayed case that the
multiset of descriptors the model closes equals the multiset the implementation closed, the model driver evaluates
the same ledger on the recorded calls of the implementation, and the harness compares the process's descriptor
table before and after every call.
-/

open K

/-- every way of obtaining a descriptor is close-on-exec -/
def Cloexec : Call → Prop
  | .openat _ _ flags _ => hasAll flags O_CLOEXEC = true
  | .openat2 _ _ flags _ _ _ => hasAll flags O_CLOEXEC = true
  | .fsopen _ flags => hasAll flags FSOPEN_CLOEXEC = true
  | .fsmount _ flags _ => hasAll flags FSMOUNT_CLOEXEC = true
  | .openTree _ _ flags => hasAll flags OPEN_TREE_CLOEXEC = true
  | .dup _ min => min = 3          -- `fcntl(F_DUPFD_CLOEXEC, 3)`; the recorder sees no other dup
  | _ => True

instance (c : Call) : Decidable (Cloexec c) := by
  cases c <;> simp only [Cloexec] <;> infer_instance

/-- the discipline implies close-on-exec for every descriptor-producing call -/
theorem Disc.cloexec {b : Bool} {c : Call} (h : Disc b c) : Cloexec c := by
  cases c with
  | openat =>
    rcases h with h | h | h
    · exact hasAll_sub _ OPEN_FORCED O_CLOEXEC h.2.2 (by decide)
    · exact hasAll_sub _ (O_CLOEXEC ||| O_NOCTTY) O_CLOEXEC h.2.2.2 (by decide)
    · exact hasAll_sub _ OPEN_FORCED O_CLOEXEC h.2.2 (by decide)
  | openat2 => exact h.2.1
  | dup => exact h
  | fsopen => exact h.2
  | fsmount => exact h.2
  | openTree => exact h.2.2
  | _ => trivial

variable (env : Env) (root : Root)

/-- every descriptor `resolve` can obtain — in particular the one it returns — is close-on-exec -/
theorem C11_resolve_cloexec (path : Bytes) (nofollow : Bool) (hr : 0 ≤ root.fd) (hp : 0 ≤ env.proc.fd) :
    Safe Cloexec (Root.resolve env root path nofollow) FdOk :=
  Safe.monoD (fun _ => Disc.cloexec) (C05_resolve env root path nofollow hr hp)

theorem C11_open_subpath_cloexec (path : Bytes) (flags : Nat) (hr : 0 ≤ root.fd) (hp : 0 ≤ env.proc.fd) :
    Safe Cloexec (Root.openSubpath env root path flags) FdOk :=
  Safe.monoD (fun _ => Disc.cloexec) (C05_open_subpath env root path flags hr hp)

theorem C11_create_file_cloexec (path : Bytes) (flags perm : Nat) (hr : 0 ≤ root.fd) (hp : 0 ≤ env.proc.fd) :
    Safe Cloexec (Root.createFile env root path flags perm) FdOk :=
  Safe.monoD (fun _ => Disc.cloexec) (C05_create_file env root path flags perm hr hp)

theorem C11_mkdir_all_cloexec (path : Bytes) (perm : Nat) (hr : 0 ≤ root.fd) (hp : 0 ≤ env.proc.fd) :
    Safe Cloexec (Root.mkdirAll env root path perm) FdOk :=
  Safe.monoD (fun _ => Disc.cloexec) (C05_mkdir_all env root path perm hr hp)

theorem C11_reopen_cloexec (fd : Fd) (flags : Nat) (hf : 0 ≤ fd) (hp : 0 ≤ env.proc.fd) :
    Safe Cloexec (Procfs.reopen env fd flags) FdOk :=
  Safe.monoD (fun _ => Disc.cloexec) (C05_reopen env fd flags hf hp)

theorem C11_proc_open_cloexec (h : ProcH) (base : Procfs.Base) (sub : Bytes) (fl fuel : Nat) (hh : 0 ≤ h.fd) :
    Safe Cloexec (Procfs.openH env fuel h base sub fl) FdOk :=
  Safe.monoD (fun _ => Disc.cloexec) (C05_proc_open env h base sub fl fuel hh)

theorem C11_proc_open_follow_cloexec (h : ProcH) (base : Procfs.Base) (sub : Bytes) (fl : Nat) (hh : 0 ≤ h.fd) :
    Safe Cloexec (Procfs.openFollowH env h base sub fl) FdOk :=
  Safe.monoD (fun _ => Disc.cloexec) (C05_proc_open_follow env h base sub fl hh)

/-- the procfs handles themselves (finding F16: the `open_tree` handle was not) -/
theorem C11_procfs_handles_cloexec : Safe Cloexec (Procfs.new env) ProcHOk ∧
    Safe Cloexec (Procfs.newUnmasked env) ProcHOk :=
  ⟨Safe.monoD (fun _ => Disc.cloexec) (C05_procfs_new env),
   Safe.monoD (fun _ => Disc.cloexec) (C05_procfs_new_unmasked env)⟩

/-- operations that return no descriptor still only ever hold close-on-exec descriptors -/
theorem C11_remove_all_cloexec (path : Bytes) (hr : 0 ≤ root.fd) (hp : 0 ≤ env.proc.fd) :
    Safe Cloexec (Root.removeAll env root path) (fun _ => True) :=
  Safe.monoD (fun _ => Disc.cloexec) (C05_remove_all env root path hr hp)

theorem C11_rename_cloexec (src dst : Bytes) (fl : Nat) (hr : 0 ≤ root.fd) (hp : 0 ≤ env.proc.fd) :
    Safe Cloexec (Root.rename env root src dst fl) (fun _ => True) :=
  Safe.monoD (fun _ => Disc.cloexec) (C05_rename env root src dst fl hr hp)

/-! ## Non-vacuity -/

example : ¬ Cloexec (.openat 3 b!"a" O_PATH 0) := by decide
example : ¬ Cloexec (.openTree AT_FDCWD b!"/proc" OPEN_TREE_CLONE) := by decide
example : Cloexec (.openTree AT_FDCWD b!"/proc" (OPEN_TREE_CLONE ||| OPEN_TREE_CLOEXEC)) := by decide

/-! ### descriptor balance

None of the proofs needs the hypotheses about `ext`: the program never closes a number it was not handed in the
run, whatever the caller holds. -/

section Balance

set_option linter.unusedVariables false
open LedgerProofs

theorem C11_balance_resolve (env : Env) (r : Resolver) (root : Fd) (path : Bytes) (nofollow : Bool) (ext : List Fd)
    (hroot : root ∈ ext) (hproc : env.proc.fd ∈ ext) (hr0 : 0 ≤ root) (hp0 : 0 ≤ env.proc.fd) :
    BalancedFd ext (Resolver.resolve env r root path nofollow) :=
  balancedFd_of_led (LedgerLogic.resolver_resolve_led env r root path nofollow)

theorem C11_balance_open_subpath (env : Env) (r : Resolver) (root : Fd) (path : Bytes) (flags : Nat) (ext : List Fd)
    (hroot : root ∈ ext) (hproc : env.proc.fd ∈ ext) (hr0 : 0 ≤ root) (hp0 : 0 ≤ env.proc.fd) :
    BalancedFd ext (Resolver.openOnce env r root path flags) :=
  balancedFd_of_led (LedgerLogic.resolver_openOnce_led env r root path flags)

theorem C11_balance_reopen (env : Env) (fd : Fd) (flags : Nat) (ext : List Fd)
    (hfd : fd ∈ ext) (hproc : env.proc.fd ∈ ext) (hf0 : 0 ≤ fd) (hp0 : 0 ≤ env.proc.fd) :
    BalancedFd ext (Procfs.reopen env fd flags) :=
  balancedFd_of_led (LedgerLogic.reopen_led env fd flags)

theorem C11_balance_remove (env : Env) (root : Root) (path : Bytes) (isDir : Bool) (ext : List Fd)
    (hroot : root.fd ∈ ext) (hproc : env.proc.fd ∈ ext) (hr0 : 0 ≤ root.fd) (hp0 : 0 ≤ env.proc.fd) :
    BalancedNone ext (Root.removeInode env root path isDir) :=
  balancedNone_of_led (LedgerLogic.root_removeInode_led env root path isDir)

theorem C11_balance_create (env : Env) (root : Root) (path : Bytes) (ty : InodeType) (ext : List Fd)
    (hroot : root.fd ∈ ext) (hproc : env.proc.fd ∈ ext) (hr0 : 0 ≤ root.fd) (hp0 : 0 ≤ env.proc.fd) :
    BalancedNone ext (Root.create env root path ty) :=
  balancedNone_of_led (LedgerLogic.root_create_led env root path ty)

theorem C11_balance_create_file (env : Env) (root : Root) (path : Bytes) (flags perm : Nat) (ext : List Fd)
    (hroot : root.fd ∈ ext) (hproc : env.proc.fd ∈ ext) (hr0 : 0 ≤ root.fd) (hp0 : 0 ≤ env.proc.fd) :
    BalancedFd ext (Root.createFile env root path flags perm) :=
  balancedFd_of_led (LedgerLogic.root_createFile_led env root path flags perm)

theorem C11_balance_rename (env : Env) (root : Root) (src dst : Bytes) (rflags : Nat) (ext : List Fd)
    (hroot : root.fd ∈ ext) (hproc : env.proc.fd ∈ ext) (hr0 : 0 ≤ root.fd) (hp0 : 0 ≤ env.proc.fd) :
    BalancedNone ext (Root.rename env root src dst rflags) :=
  balancedNone_of_led (LedgerLogic.root_rename_led env root src dst rflags)

theorem C11_balance_readlink (env : Env) (root : Root) (path : Bytes) (ext : List Fd)
    (hroot : root.fd ∈ ext) (hproc : env.proc.fd ∈ ext) (hr0 : 0 ≤ root.fd) (hp0 : 0 ≤ env.proc.fd) :
    BalancedNone ext (Root.readlink env root path) :=
  balancedNone_of_led (LedgerLogic.root_readlink_led env root path)

theorem C11_balance_mkdir_all (env : Env) (root : Root) (path : Bytes) (perm : Nat) (ext : List Fd)
    (hroot : root.fd ∈ ext) (hproc : env.proc.fd ∈ ext) (hr0 : 0 ≤ root.fd) (hp0 : 0 ≤ env.proc.fd) :
    BalancedFd ext (Root.mkdirAll env root path perm) :=
  balancedFd_of_led (LedgerLogic.root_mkdirAll_led env root path perm)

theorem C11_balance_remove_all (env : Env) (root : Root) (path : Bytes) (ext : List Fd)
    (hroot : root.fd ∈ ext) (hproc : env.proc.fd ∈ ext) (hr0 : 0 ≤ root.fd) (hp0 : 0 ≤ env.proc.fd) :
    BalancedNone ext (Root.removeAll env root path) :=
  balancedNone_of_led (LedgerLogic.root_removeAll_led env root path)

end Balance


/-! ### a whole session: at most one long-lived descriptor -/

open Ledger LedgerProofs Session SessionLedger in
/-- **After any sequence of library calls of one process** — each balanced on its own, as the `C11_balance_*` theorems
say of every operation — started with the process-global procfs cell (`GLOBAL_PROCFS_CELL`) empty: the descriptors the
process holds are exactly those handed back to the caller by the successful calls, plus at most one more, the
process-global procfs handle created by the first call that needed it (`cellFds cell` is `[]` or `[h.fd]`).  Nothing
else is left behind by the first use or by any later one; a failed creation leaves the cell empty and nothing open. -/
theorem C11_session_at_most_one_long_lived (env : Env) (ext : List Fd) (steps : List Step)
    (hs : ∀ s ∈ steps, StepOk ext s) (h0 l : Hist) (rs : List (Except Err Fd)) (cell : Option ProcH)
    (hr : Runs (session env none steps) h0 (h0 ++ l) (rs, cell)) (hf : Fresh ext [] l) :
    anyFatal rs ∨ ∃ o, ledger [] l = some o ∧ o.Perm (returned rs ++ cellFds cell) :=
  session_balanced env ext steps hs h0 l rs cell hr hf

open Ledger LedgerProofs Session SessionLedger in
/-- once the cell is filled it never changes and no call creates another handle -/
theorem C11_session_filled (env : Env) (ext : List Fd) (hcell : ProcH) (hc : hcell.fd ∈ ext) (hc0 : 0 ≤ hcell.fd)
    (steps : List Step) (hs : ∀ s ∈ steps, StepOk ext s) (h0 l : Hist) (rs : List (Except Err Fd)) (cell : Option ProcH)
    (hr : Runs (session env (some hcell) steps) h0 (h0 ++ l) (rs, cell)) (hf : Fresh ext [] l) :
    cell = some hcell ∧ (anyFatal rs ∨ ∃ o, ledger [] l = some o ∧ o.Perm (returned rs)) := by
  refine ⟨Sat.of_run (session_cell env hcell steps) ⟨_, _, hr⟩, ?_⟩
  have := session_led env ext steps hs (some hcell) [] (fun h hh => by cases hh; exact ⟨hc0, hc⟩)
    [] h0 l _ LedgerLogic.Good.nil (.refl _) hr hf
  simpa only [created, List.append_nil] using this

open Session SessionLedger in
/-- the hypotheses are satisfiable: a plain `openat` followed by a `reopen` (which needs the global handle) -/
example (env : Env) (ext : List Fd) : ∀ s ∈ exampleSteps env, StepOk ext s := exampleSteps_ok env ext
