import Pathrs.Generated.AbiData

/-!
# C18 — the C header and the language bindings describe the exported ABI exactly

`AbiData` is regenerated from /repo's sources on every run by
`tools/abi_extract.py` (Rust `#[no_mangle] extern "C"` items with their `repr`
attributes, `include/pathrs.h`, `cbindgen.toml`, every `C.pathrs_*` call in the Go
binding with the casts at the call site, every `libpathrs_so.*` use and the `cdef`
preamble of the Python binding).  The theorem is therefore re-checked against
what the files say now.
-/

open Abi

def tables : Tables where
  rust := AbiData.rust
  header := AbiData.header
  rustEnum := AbiData.rustEnum
  headerEnum := AbiData.headerEnum
  rustStruct := AbiData.rustStruct
  headerStruct := AbiData.headerStruct
  goCalls := AbiData.goCalls
  goConsts := AbiData.goConsts
  pyCalls := AbiData.pyCalls
  pyConsts := AbiData.pyConsts
  pyTypedefs := AbiData.pyTypedefs
  renamesOk := AbiData.renamesOk
  aliases := AbiData.aliases

/-- the tables extracted from the current sources are consistent -/
theorem C18_abi_consistent : check tables = true := by decide

/-! ## What the check means -/

structure Abi.Consistent (t : Tables) : Prop where
  header : t.rust = t.header
  enums : t.rustEnum = t.headerEnum
  structs : t.rustStruct = t.headerStruct
  goCalls : ∀ c ∈ t.goCalls, callOk t.header c = true
  goConsts : ∀ k ∈ t.goConsts, ∃ kv ∈ t.headerEnum, kv.1 = k
  pyCalls : ∀ c ∈ t.pyCalls, arityOk t.header c = true
  pyConsts : ∀ k ∈ t.pyConsts, ∃ kv ∈ t.headerEnum, kv.1 = k
  pyTypedefs : ∀ p ∈ t.pyTypedefs, p.1.width = p.2.width
  renames : t.renamesOk = true
  aliases : ∀ p ∈ t.aliases, p.1 = p.2

theorem check_iff (t : Tables) : check t = true ↔ Consistent t := by
  simp only [check, checkCore, Bool.and_eq_true, beq_iff_eq, List.all_eq_true, List.any_eq_true,
    decide_eq_true_eq, and_assoc]
  exact ⟨fun ⟨a, b, c, d, e, f, g, h, i, j⟩ => ⟨a, b, c, d, e, f, g, h, i, j⟩,
    fun ⟨a, b, c, d, e, f, g, h, i, j⟩ => ⟨a, b, c, d, e, f, g, h, i, j⟩⟩

/-- `callOk` and `arityOk` are this shape: the header's entry of that name, then a test `p` on it -/
theorem find_ok {hdr : List FnSig} {n : Nat} {p : FnSig → Bool}
    (h : (match hdr.find? (fun h => h.name = n) with
      | some d => p d
      | none => false) = true) : ∃ d ∈ hdr, d.name = n ∧ p d = true := by
  split at h
  · rename_i d hd
    exact ⟨d, List.mem_of_find?_eq_some hd, by simpa using List.find?_some hd, h⟩
  · cases h

theorem argsCompat_spec (ds us : List CType) (h : argsCompat ds us = true) :
    ds.length = us.length ∧
    ∀ (i : Nat) (d u : CType), ds[i]? = some d → us[i]? = some u → u = CType.any ∨ d = u := by
  fun_induction argsCompat ds us with
  | case1 => exact ⟨rfl, fun i d u hd => by cases hd⟩
  | case2 d0 ds u0 us ih =>
    rw [Bool.and_eq_true] at h
    obtain ⟨hlen, hget⟩ := ih h.2
    refine ⟨congrArg (· + 1) hlen, fun i d u hd hu => ?_⟩
    cases i with
    | zero =>
      cases hd; cases hu
      simpa [compat] using h.1
    | succ j => exact hget j d u hd hu
  | case3 => cases h

/-- the header declares exactly the exported functions, with the same ABI class
for the return value and every argument -/
theorem C18_header_matches_exports (t : Tables) (h : check t = true) : t.rust = t.header :=
  ((check_iff t).mp h).header

/-- same enum values and the same struct layout (field order, classes, alignment) -/
theorem C18_enum_and_struct (t : Tables) (h : check t = true) :
    t.rustEnum = t.headerEnum ∧ t.rustStruct = t.headerStruct :=
  ⟨((check_iff t).mp h).enums, ((check_iff t).mp h).structs⟩

/-- every call in the Go binding names a declared function and passes arguments
of the declared classes -/
theorem C18_go_calls_declared (t : Tables) (h : check t = true) :
    ∀ c ∈ t.goCalls, ∃ d ∈ t.header, d.name = c.name ∧ argsCompat d.args c.args = true :=
  fun c hc => find_ok (((check_iff t).mp h).goCalls c hc)

/-- every call in the Python binding names a declared function with the right arity,
and the integer typedefs it declares to cffi have the real width -/
theorem C18_python_calls_declared (t : Tables) (h : check t = true) :
    (∀ c ∈ t.pyCalls, ∃ d ∈ t.header, d.name = c.1 ∧ d.args.length = c.2) ∧
    (∀ p ∈ t.pyTypedefs, p.1.width = p.2.width) := by
  refine ⟨fun c hc => ?_, ((check_iff t).mp h).pyTypedefs⟩
  obtain ⟨d, hd, hn, ha⟩ := find_ok (((check_iff t).mp h).pyCalls c hc)
  exact ⟨d, hd, hn, of_decide_eq_true ha⟩

/-- every named constant a binding exports denotes the header constant of the same name -/
theorem C18_binding_constants_named (t : Tables) (h : check t = true) : ∀ p ∈ t.aliases, p.1 = p.2 :=
  ((check_iff t).mp h).aliases

theorem argsCompat_length : ∀ (ds us : List CType), argsCompat ds us = true → ds.length = us.length :=
  fun ds us h => (argsCompat_spec ds us h).1

/-- position by position, what the binding passes is either untyped at the call site (`CType.any`)
or of exactly the declared ABI class -/
theorem argsCompat_get : ∀ (ds us : List CType), argsCompat ds us = true →
    ∀ (i : Nat) (d u : CType), ds[i]? = some d → us[i]? = some u → u = CType.any ∨ d = u :=
  fun ds us h => (argsCompat_spec ds us h).2

/-- the Go binding against what the library really exports (not just the header):
every call names an exported Rust function, passes exactly as many arguments as
it takes, each of the exported ABI class unless untyped at the call site -/
theorem C18_go_calls_match_exports (t : Tables) (h : check t = true) :
    ∀ c ∈ t.goCalls, ∃ d ∈ t.rust, d.name = c.name ∧ d.args.length = c.args.length ∧
      ∀ (i : Nat) (a u : CType), d.args[i]? = some a → c.args[i]? = some u → u = CType.any ∨ a = u := by
  intro c hc
  obtain ⟨d, hd, hn, ha⟩ := C18_go_calls_declared t h c hc
  rw [← C18_header_matches_exports t h] at hd
  exact ⟨d, hd, hn, argsCompat_spec _ _ ha⟩

/-- the Python binding against the exports: every call names an exported Rust function of that arity -/
theorem C18_python_calls_match_exports (t : Tables) (h : check t = true) :
    ∀ c ∈ t.pyCalls, ∃ d ∈ t.rust, d.name = c.1 ∧ d.args.length = c.2 := by
  rw [C18_header_matches_exports t h]
  exact (C18_python_calls_declared t h).1

/-- every enum constant a binding uses is a constant of the Rust enum (with, by
`C18_enum_and_struct`, the value the header gives it) -/
theorem C18_binding_constants_exist (t : Tables) (h : check t = true) :
    (∀ k ∈ t.goConsts, ∃ kv ∈ t.rustEnum, kv.1 = k) ∧ (∀ k ∈ t.pyConsts, ∃ kv ∈ t.rustEnum, kv.1 = k) := by
  rw [(C18_enum_and_struct t h).1]
  exact ⟨((check_iff t).mp h).goConsts, ((check_iff t).mp h).pyConsts⟩

/-- non-vacuity: the check rejects a table in which the header lost a function -/
example : check { tables with header := tables.header.drop 1 } = false := by decide
example : check { tables with pyTypedefs := [(.devt, .u32)] } = false := by decide
example : check { tables with headerEnum := [(0, 1), (1, 2), (2, 3)] } = false := by decide
example : check { tables with aliases := (0, 1) :: tables.aliases } = false := by decide
example : tables.aliases ≠ [] := by decide
example : tables.goCalls ≠ [] ∧ tables.pyCalls ≠ [] ∧ tables.goConsts ≠ [] ∧ tables.pyConsts ≠ [] := by decide
