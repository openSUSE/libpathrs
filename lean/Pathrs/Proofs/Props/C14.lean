import Pathrs.Proofs.Props.C10
import Pathrs.Proofs.Props.C01
import Pathrs.Proofs.RunsWorld
import Pathrs.Proofs.KEffect

/-!
# C14 — single-entry operations act on exactly (in-root parent, final name)

For every environment (`Runs`): a successful `create`, `remove_file`/`remove_dir`, `rename` or
`create_file` is, call by call,

  1. the in-root resolution (follow mode) of the parent part of the path as split by `path_split`
     — `Resolver.resolve env r root parent false`, the very program C01/C02 are about —
  2. exactly one mutating `*at` call on (that descriptor, final name) which the kernel
     acknowledged (for `create_file`: one `openat` with `O_CREAT|O_NOFOLLOW|O_CLOEXEC|O_NOCTTY`
     whose answer is the descriptor returned),
  3. closing the parent descriptor(s),

and nothing else.  The final name is a single slash-free non-empty component (`pathSplit_name`)
and a trailing slash never reaches step 2 (`C03_trailing_slash_*`).  What the kernel does with
one `*at` call on an `O_PATH` directory descriptor and a single name (it never follows that
name) is the kernel's contract; the effect oracle of the check compares the whole tree.

**Effect theorems** (`C14_effect_*`, on the `exec` of `Proofs/KEffect.lean`): run against a well-formed world that *mutating
calls change* — what the kernel does with a mutating call (its answer and the tree afterwards) is an arbitrary
parameter `μ : MutK`, so the theorems hold for every kernel — `remove_file`/`remove_dir`, `create` (every inode type,
hard links with their second lookup), `create_file` and `rename` leave exactly the world `μ.eff w c` for the **one**
mutating call `c` on (`d`, final name), where `d` is the specification's in-root resolution of the parent path
(`World.resolveInRoot`, C01) on whichever backend is active, and return the wrapper's translation of the kernel's
answer; when the parent lookup fails, the path has a trailing slash or cannot be split, the world is unchanged.  The
lookups themselves never make a mutating call (`KEffect.resolve_noMut`, for every environment).
-/

open K Runs

theorem resolveParent_ok_inv {env : Env} {root : Root} {path : Bytes} {h h' : Hist} {dir : Fd} {name : Option Bytes}
    (hr : Runs (Root.resolveParent env root path) h h' (.ok (dir, name))) :
    ∃ parent, Path.pathSplit path = .ok (parent, name) ∧
      Runs (Resolver.resolve env root.resolver root.fd parent false) h h' (.ok dir) := by
  unfold Root.resolveParent at hr
  simp only [M.bind_def] at hr
  obtain ⟨hm, ⟨parent, nm⟩, h1, hr2⟩ := mbind_ok hr
  have h1' : Runs (M.ofExcept (Path.pathSplit path)) h hm (.ok (parent, nm)) := h1
  obtain ⟨hh, hs⟩ := ofExcept_inv h1'
  obtain ⟨hm2, d, h2, hr3⟩ := mbind_ok hr2
  obtain ⟨hh3, he⟩ := ret_inv hr3
  cases he
  subst hh hh3
  exact ⟨parent, hs.symm, h2⟩

theorem pathSplit_name {path parent name : Bytes} (h : Path.pathSplit path = .ok (parent, some name)) :
    name ≠ [] ∧ Path.containsSlash name = false :=
  ⟨(Path.pathSplit_some_iff.1 h).1, pathSplit_single h⟩

/-- a successful operation on (parent, name): the parent resolution, a successful run of the body on
(that descriptor, final name), the close of the parent -/
theorem withParent_ok_inv {α : Type} {env : Env} {root : Root} {path : Bytes} {body : Fd → Bytes → M α}
    {h h' : Hist} {a : α} (hr : Runs (Root.withParent env root path body) h h' (.ok a)) :
    ∃ parent name dir hm hb rc, Path.pathSplit path = .ok (parent, some name) ∧
      Runs (Resolver.resolve env root.resolver root.fd parent false) h hm (.ok dir) ∧
      Runs (body dir name) hm hb (.ok a) ∧ h' = hb ++ [(Call.close dir, rc)] := by
  unfold Root.withParent at hr
  simp only [M.bind_def] at hr
  obtain ⟨hm, ⟨dir, name⟩, h1, hr⟩ := mbind_ok hr
  obtain ⟨parent, hsplit, hres⟩ := resolveParent_ok_inv h1
  cases name with
  | none =>
    obtain ⟨_, _, _, hr⟩ := mbind_ok hr
    exact (throw_ok hr).elim
  | some name =>
    obtain ⟨hb, hbody, hc⟩ := try_then_ok hr
    obtain ⟨rc, rfl⟩ := close_inv hc
    exact ⟨parent, name, dir, hm, hb, rc, hsplit, hres, hbody, rfl⟩

/-- **remove_file / remove_dir**: parent resolution, one acknowledged `unlinkat(parent, name)`, close -/
theorem C14_remove_shape (env : Env) (root : Root) (path : Bytes) (isDir : Bool) {h h' : Hist}
    (hr : Runs (Root.removeInode env root path isDir) h h' (.ok ())) :
    ∃ parent name dir hm rc, Path.pathSplit path = .ok (parent, some name) ∧
      Runs (Resolver.resolve env root.resolver root.fd parent false) h hm (.ok dir) ∧
      h' = hm ++ [(Call.unlinkat dir name (if isDir then AT_REMOVEDIR else 0), Resp.unit), (Call.close dir, rc)] := by
  obtain ⟨parent, name, dir, hm, hb, rc, hsplit, hres, hbody, rfl⟩ := withParent_ok_inv (Root.removeInode_eq .. ▸ hr)
  exact ⟨parent, name, dir, hm, rc, hsplit, hres, by rw [unlinkat_ok_inv hbody, List.append_assoc]; rfl⟩

/-- **create** (every inode type but hard links): parent resolution, one acknowledged mutating call on
(parent, name), close -/
theorem C14_create_shape (env : Env) (root : Root) (path : Bytes) (ty : InodeType)
    (hty : ∀ t, ty ≠ .hardlink t) {h h' : Hist}
    (hr : Runs (Root.create env root path ty) h h' (.ok ())) :
    ∃ parent name dir hm c rc, Path.pathSplit path = .ok (parent, some name) ∧
      Runs (Resolver.resolve env root.resolver root.fd parent false) h hm (.ok dir) ∧
      isMutating c = true ∧
      h' = hm ++ [(c, Resp.unit), (Call.close dir, rc)] := by
  obtain ⟨parent, name, dir, hm, hb, rc, hsplit, hres, hbody, rfl⟩ := withParent_ok_inv (Root.create_eq .. ▸ hr)
  obtain ⟨c, hc, hu⟩ := createCall_ok_did_work env root dir name ty hty hbody
  exact ⟨parent, name, dir, hm, c, rc, hsplit, hres, hc, by rw [hu, List.append_assoc]; rfl⟩

/-- **create_file**: parent resolution, one `openat(parent, name, flags|O_CREAT|O_NOFOLLOW|O_CLOEXEC|O_NOCTTY)`
whose answer is the returned descriptor, close -/
theorem C14_createFile_shape (env : Env) (root : Root) (path : Bytes) (flags perm : Nat) {h h' : Hist} {fd : Fd}
    (hr : Runs (Root.createFile env root path flags perm) h h' (.ok fd)) :
    ∃ parent name dir hm rc, Path.pathSplit path = .ok (parent, some name) ∧
      name ≠ Path.dot ∧ name ≠ Path.dotdot ∧
      Runs (Resolver.resolve env root.resolver root.fd parent false) h hm (.ok dir) ∧
      h' = hm ++ [(Call.openat dir name (flags ||| O_CREAT ||| O_NOFOLLOW ||| O_CLOEXEC ||| O_NOCTTY) perm, Resp.fd fd),
                  (Call.close dir, rc)] := by
  obtain ⟨parent, name, dir, hm, hb, rc, hsplit, hres, hbody, rfl⟩ := withParent_ok_inv (Root.createFile_eq .. ▸ hr)
  obtain ⟨hname, hbody⟩ := unless_ok hbody
  exact ⟨parent, name, dir, hm, rc, hsplit, fun h => hname (Or.inl h), fun h => hname (Or.inr h), hres,
    by rw [openat_ok_inv hbody, List.append_assoc]; rfl⟩

/-- **rename**: both parents resolved in-root, one acknowledged rename call on
(source parent, source name, destination parent, destination name), both closed -/
theorem C14_rename_shape (env : Env) (root : Root) (src dst : Bytes) (rflags : Nat) {h h' : Hist}
    (hr : Runs (Root.rename env root src dst rflags) h h' (.ok ())) :
    ∃ sparent sname sdir dparent dname ddir h1 h2 c rc1 rc2,
      Path.pathSplit src = .ok (sparent, some sname) ∧ Path.pathSplit dst = .ok (dparent, some dname) ∧
      Runs (Resolver.resolve env root.resolver root.fd sparent false) h h1 (.ok sdir) ∧
      Runs (Resolver.resolve env root.resolver root.fd dparent false) h1 h2 (.ok ddir) ∧
      isMutating c = true ∧
      h' = h2 ++ [(c, Resp.unit), (Call.close sdir, rc1), (Call.close ddir, rc2)] := by
  unfold Root.rename at hr
  simp only [M.bind_def] at hr
  obtain ⟨h1, ⟨sdir, sname⟩, hs, hr⟩ := mbind_ok hr
  obtain ⟨sparent, hsplit, hres⟩ := resolveParent_ok_inv hs
  cases sname with
  | none =>
    obtain ⟨_, _, _, hr⟩ := mbind_ok hr
    exact (throw_ok hr).elim
  | some sname =>
    obtain ⟨h2, ⟨ddir, dname⟩, hd, hr⟩ := mbind_ok hr
    obtain ⟨dparent, hsplit2, hres2⟩ := resolveParent_ok_inv (onErr_ok hd)
    cases dname with
    | none =>
      obtain ⟨_, _, _, hr⟩ := mbind_ok hr
      exact (throw_ok hr).elim
    | some dname =>
      obtain ⟨h3, x, hy, hr⟩ := mbind_ok hr
      obtain ⟨h4, _, hc1, hr⟩ := mbind_ok hr
      obtain ⟨rc1, rfl⟩ := close_inv (lift_ok hc1)
      obtain ⟨h5, _, hc2, hr⟩ := mbind_ok hr
      obtain ⟨rc2, rfl⟩ := close_inv (lift_ok hc2)
      obtain ⟨rfl, rfl⟩ := ofExcept_ok hr
      obtain ⟨c, hc, rfl⟩ := renameat2_ok_inv (try_ok hy)
      exact ⟨sparent, sname, sdir, dparent, dname, ddir, h1, h2, c, rc1, rc2, hsplit, hsplit2, hres, hres2, hc,
        by simp only [List.append_assoc, List.cons_append, List.nil_append]⟩

/-- non-vacuity: `path_split` of `a/b` is (`a`, `b`); of `a/b/` the name is missing (trailing slash) -/
example : Path.pathSplit b!"a/b" = .ok (b!"a", some b!"b") := by rfl
example : Path.pathSplit b!"a/b/" = .ok (b!"a/b", none) := by rfl

/-! ### the parent, on a world

The shape theorems say that the mutating call is made on the descriptor a run of
`Resolver.resolve … parent false` returned.  When that lookup's answers come from a well-formed
world (an unmodified tree), the descriptor is the specification's in-root resolution of the parent
path (`World.resolveInRoot`, the meaning of `openat2(RESOLVE_IN_ROOT)`), on either backend. -/

open KRun KSim KSpec World in
theorem C14_parent_is_spec {w : World} (hw : w.WF) (r : Resolver) (parent : Bytes) (hnul : parent.contains 0 = false)
    {h hm : Hist} {dir : Fd}
    (hres : Runs (Resolver.resolve (kenv w) r w.root parent false) h hm (.ok dir))
    (l : Hist) (hl : hm = h ++ l) (ha : AnswersFrom w l) :
    resolveInRoot w (if r.emulated then ecfg r.rflags false else kcfgK w r.rflags false) parent = .ok dir := by
  have hd := Runs.world_det (w := w) hres l hl ha
  exact toOut_ok ((C01_any_backend hw r parent hnul false).symm.trans hd.symm)

open KRun in
/-- … and so lies inside the root's tree -/
theorem C14_parent_inside_root {w : World} (hw : w.WF) (r : Resolver) (parent : Bytes) (hnul : parent.contains 0 = false)
    {h hm : Hist} {dir : Fd}
    (hres : Runs (Resolver.resolve (kenv w) r w.root parent false) h hm (.ok dir))
    (l : Hist) (hl : hm = h ++ l) (ha : AnswersFrom w l) : ∃ p, w.dpath dir = some p :=
  C01_inside_root hw _ parent dir (C14_parent_is_spec hw r parent hnul hres l hl ha)

/-! ### exactly the effect of one `*at` call on (in-root parent, final name) -/

open KRun KSpec World KEffect in
theorem C14_effect_remove {w : World} (μ : MutK) (hw : w.WF) (r : Resolver) (path parent name : Bytes)
    (hnul : parent.contains 0 = false) (isDir : Bool) (d : Fd)
    (hsplit : Path.pathSplit path = .ok (parent, some name))
    (hres : resolveInRoot w (if r.emulated then ecfg r.rflags false else kcfgK w r.rflags false) parent = .ok d) :
    exec μ w (Root.removeInode (kenv w) { fd := w.root, resolver := r } path isDir) =
      (μ.eff w (.unlinkat d name (if isDir then AT_REMOVEDIR else 0)),
       unitOut (μ.ans w (.unlinkat d name (if isDir then AT_REMOVEDIR else 0))) "unlinkat") := by
  rw [Root.removeInode_eq, exec_withParent, run_resolveParent hw r hnul hsplit, hres]
  exact exec_unlinkat μ d (resolved_nonneg hw hres) name _

open KRun KSpec World KEffect in
/-- `Root::create` of anything but a hard link: exactly the one `mknodat`/`mkdirat`/`symlinkat` on
(in-root parent, final name) -/
theorem C14_effect_create {w : World} (μ : MutK) (hw : w.WF) (r : Resolver) (path parent name : Bytes)
    (hnul : parent.contains 0 = false) (ty : InodeType) (d : Fd) (c : Call) (site : String)
    (hsplit : Path.pathSplit path = .ok (parent, some name))
    (hres : resolveInRoot w (if r.emulated then ecfg r.rflags false else kcfgK w r.rflags false) parent = .ok d)
    (hc : createSysCall d name ty = some (c, site)) :
    exec μ w (Root.create (kenv w) { fd := w.root, resolver := r } path ty) = (μ.eff w c, unitOut (μ.ans w c) site) := by
  rw [Root.create_eq, exec_withParent, run_resolveParent hw r hnul hsplit, hres]
  exact exec_createCall μ _ _ d (resolved_nonneg hw hres) name ty c site hc

open KRun KSpec World KEffect in
/-- `Root::create` of a hard link: a second parent lookup (of the link target), then exactly one `linkat` -/
theorem C14_effect_hardlink {w : World} (μ : MutK) (hw : w.WF) (r : Resolver) (path parent name target tparent tname : Bytes)
    (hnul : parent.contains 0 = false) (hnult : tparent.contains 0 = false) (d dt : Fd)
    (hsplit : Path.pathSplit path = .ok (parent, some name))
    (hres : resolveInRoot w (if r.emulated then ecfg r.rflags false else kcfgK w r.rflags false) parent = .ok d)
    (hsplitt : Path.pathSplit target = .ok (tparent, some tname))
    (hrest : resolveInRoot w (if r.emulated then ecfg r.rflags false else kcfgK w r.rflags false) tparent = .ok dt) :
    exec μ w (Root.create (kenv w) { fd := w.root, resolver := r } path (.hardlink target)) =
      (μ.eff w (.linkat dt tname d name 0), unitOut (μ.ans w (.linkat dt tname d name 0)) "linkat") := by
  rw [Root.create_eq, exec_withParent, run_resolveParent hw r hnul hsplit, hres]
  dsimp only
  rw [Root.createCall_hardlink, exec_withParent, run_resolveParent hw r hnult hsplitt, hrest]
  exact exec_linkat μ dt d (resolved_nonneg hw hrest) (resolved_nonneg hw hres) tname name 0

open KRun KSpec World KEffect in
/-- `Root::create_file`: exactly one `openat(parent, name, flags|O_CREAT|O_NOFOLLOW|O_CLOEXEC|O_NOCTTY, perm)` -/
theorem C14_effect_create_file {w : World} (μ : MutK) (hw : w.WF) (r : Resolver) (path parent name : Bytes)
    (hnul : parent.contains 0 = false) (flags perm : Nat) (d : Fd)
    (hsplit : Path.pathSplit path = .ok (parent, some name))
    (hname : ¬ (name = Path.dot ∨ name = Path.dotdot))
    (hres : resolveInRoot w (if r.emulated then ecfg r.rflags false else kcfgK w r.rflags false) parent = .ok d) :
    exec μ w (Root.createFile (kenv w) { fd := w.root, resolver := r } path flags perm) =
      (μ.eff w (createFileCall d name flags perm), fdOut (μ.ans w (createFileCall d name flags perm)) "openat") := by
  rw [Root.createFile_eq, exec_withParent, run_resolveParent hw r hnul hsplit, hres]
  dsimp only
  rw [Root.createFileOpen, if_neg hname]
  exact exec_openat_creat μ d (resolved_nonneg hw hres) name flags perm

open KRun KSpec World KEffect in
/-- a final component `.` or `..` is not a file that can be created: `create_file` refuses it with `EISDIR` and the
tree is unchanged, whatever the open flags.  (With `O_PATH` the kernel ignores `O_CREAT`; the `*at` call would be a
plain lookup of `..` below the parent — for the root, of the directory *outside* it: finding F24.) -/
theorem C14_frame_create_file_dots {w : World} (μ : MutK) (hw : w.WF) (r : Resolver) (path parent name : Bytes)
    (hnul : parent.contains 0 = false) (flags perm : Nat) (d : Fd)
    (hsplit : Path.pathSplit path = .ok (parent, some name))
    (hname : name = Path.dot ∨ name = Path.dotdot)
    (hres : resolveInRoot w (if r.emulated then ecfg r.rflags false else kcfgK w r.rflags false) parent = .ok d) :
    exec μ w (Root.createFile (kenv w) { fd := w.root, resolver := r } path flags perm) = (w, .error (.os EISDIR)) := by
  rw [Root.createFile_eq, exec_withParent, run_resolveParent hw r hnul hsplit, hres]
  dsimp only
  rw [Root.createFileOpen, if_pos hname]
  rfl

open KRun KSpec World KEffect in
/-- `Root::rename`: two parent lookups on the same (unchanged) world, then exactly one
`renameat`/`renameat2` on (source parent, source name, destination parent, destination name) -/
theorem C14_effect_rename {w : World} (μ : MutK) (hw : w.WF) (r : Resolver) (src dst p1 n1 p2 n2 : Bytes)
    (hnul1 : p1.contains 0 = false) (hnul2 : p2.contains 0 = false) (flags : Nat) (d1 d2 : Fd)
    (hsplit1 : Path.pathSplit src = .ok (p1, some n1))
    (hres1 : resolveInRoot w (if r.emulated then ecfg r.rflags false else kcfgK w r.rflags false) p1 = .ok d1)
    (hsplit2 : Path.pathSplit dst = .ok (p2, some n2))
    (hres2 : resolveInRoot w (if r.emulated then ecfg r.rflags false else kcfgK w r.rflags false) p2 = .ok d2) :
    exec μ w (Root.rename (kenv w) { fd := w.root, resolver := r } src dst flags) =
      (μ.eff w (renameSysCall d1 n1 d2 n2 flags),
       unitOut (μ.ans w (renameSysCall d1 n1 d2 n2 flags)) (renameSite flags)) := by
  rw [exec_rename, run_resolveParent hw r hnul1 hsplit1, hres1, run_resolveParent hw r hnul2 hsplit2, hres2]
  exact exec_renameat2 μ d1 d2 (resolved_nonneg hw hres1) (resolved_nonneg hw hres2) n1 n2 flags

open KRun KSpec World KEffect in
/-- a trailing slash: nothing changes -/
theorem C14_frame_trailing_slash {w : World} (μ : MutK) (hw : w.WF) (r : Resolver) (path parent : Bytes)
    (hnul : parent.contains 0 = false) (isDir : Bool) (d : Fd)
    (hsplit : Path.pathSplit path = .ok (parent, none))
    (hres : resolveInRoot w (if r.emulated then ecfg r.rflags false else kcfgK w r.rflags false) parent = .ok d) :
    exec μ w (Root.removeInode (kenv w) { fd := w.root, resolver := r } path isDir) = (w, .error .invalidArgument) := by
  rw [Root.removeInode_eq, exec_withParent, run_resolveParent hw r hnul hsplit, hres]

