import Pathrs.Proofs.Attack
import Pathrs.Proofs.Props.C01

/-!
# C02 (kernel backend) — `openat2::resolve` against an attacker who rearranges the tree between any two system calls

The kernel backend makes one kind of call, `openat2(root, path, …, RESOLVE_IN_ROOT|RESOLVE_NO_MAGICLINKS|…)`, up to 16
times.  Under `Attack.runSeq` each call is answered by the world of its moment; `World.answer` resolves the whole path
inside that one world — which is the trusted statement that the kernel's own in-root walk is atomic with respect to
renames (`RESOLVE_IN_ROOT` retries or fails with `EAGAIN` when a rename races with it).  Assumed: every world is
well-formed and has the root descriptor the lookup is given (`hwf`, `hroot`; the proof uses both only for the world of
the moment of the successful call).  Then the object returned was below the root at some moment of the call (the
proof takes the moment of the successful `openat2`; the statement says only that there is one).
-/

open K World KRun Attack

theorem C02_kernel_under_attack (ws : Nat → World) (root : Fd) (m : Nat) (path : Bytes) (rflags : Nat) (nofollow : Bool)
    (i0 : Nat) (fd : Fd) (hroot : ∀ i, (ws i).root = root) (hwf : ∀ i, (ws i).WF)
    (h : (runSeq ws i0 (Openat2.resolve (aenv m) root path rflags nofollow)).1 = .ok fd) :
    ∃ i p, i0 ≤ i ∧ i < (runSeq ws i0 (Openat2.resolve (aenv m) root path rflags nofollow)).2 ∧
      (ws i).dpath fd = some p := by
  obtain ⟨H, hruns, hlen, hans⟩ := runSeq_ok h
  rw [hlen]
  obtain ⟨_, hlast, _⟩ := C02_kernel_confined (aenv m) root path rflags nofollow hruns
  obtain ⟨pre, fl, hH⟩ := hlast fd rfl
  -- the last call was answered by the world of its moment
  obtain ⟨hans', hk⟩ := ans_at hans hH (List.prefix_refl _)
  refine ⟨i0 + pre.length, ?_⟩
  have hw := hwf (i0 + pre.length)
  have hr := hroot (i0 + pre.length)
  generalize ws (i0 + pre.length) = w at hans' hw hr
  have hres : resolveInRoot w { nofollow := hasAll fl O_NOFOLLOW
                                noSymlinks := hasAll (RESOLVE_IN_ROOT ||| RESOLVE_NO_MAGICLINKS ||| rflags) RESOLVE_NO_SYMLINKS
                                maxLinks := w.kernelLinks } (Path.toCString path) = .ok fd := by
    simp only [World.answer, hr ▸ tree_ne_proc hw.root_tree, hr ▸ tree_ne_ts hw.root_tree, ↓reduceIte] at hans'
    rw [← hr] at hans'
    split at hans'
    · generalize hx : resolveInRoot w _ (Path.toCString path) = x at hans'
      cases x with
      | error e => cases hans'
      | ok c =>
        simp only at hans'
        generalize hok : openKind (w.kind c) fl = y at hans'
        cases y with
        | error e => cases hans'
        | ok u => cases hans'; rfl
    · cases hans'
  obtain ⟨p, hp⟩ := C01_inside_root hw _ _ _ hres
  exact ⟨p, Nat.le_add_right _ _, Nat.add_lt_add_left hk _, hp⟩

/-! ## Non-vacuity: on the attacker who does nothing the kernel lookup of `a` (no-follow) succeeds -/

example : (runSeq (fun _ => exWorld) 0 (Openat2.resolve (aenv exWorld.procMnt) exWorld.root b!"a" 0 true)).1 = .ok 6 := by
  refine (runSeq_const exWorld _ 0).trans ?_
  show Prog.run exWorld (Openat2.resolve (KRun.kenv exWorld) exWorld.root b!"a" 0 true) = _
  rw [KSpec.run_openat2_resolve exWorld_wf b!"a" (by decide) 0 true, exWorld_resolve_a _ rfl]
  rfl
