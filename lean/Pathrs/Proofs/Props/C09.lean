import Pathrs.Proofs.Runs
import Pathrs.Proofs.Props.C06
import Pathrs.Proofs.KProcReopen

/-!
# C09 — reopen yields the same inode for any descriptor number

The model-level content: `reopen` never touches the filesystem by a name of the
file — it goes through `thread-self/fd/<n>` of libpathrs' own procfs handle, for
every descriptor number including 0; creation flags are refused before any
system call; a handle that refers to a symlink is refused with `ELOOP` right
after the `fstat`, before procfs is touched; `O_NOFOLLOW` is stripped.
That the magic-link `fd/<n>` leads to the inode the descriptor refers to, whatever has
happened to the file's names since it was opened, is the kernel's contract for procfs
magic-links (trusted, DESIGN.md §10; `PWorld.target` in the mount theorems), exercised by
the tie after rename/replace/unlink histories.

Further: `C09_no_fallback_on_unrelated_failure` (which probe outcomes lead to which half of `open_follow`),
`C09_follow_verified` (for every environment, what precedes the one followed open), `C09_reopen_on_mounts` and
`C09_open_follow_on_mounts` (on procfs trees with mounts), and the specification of `path_strip_trailing_slash`
(`C09_strip_*`).
-/

open K

/-! ## `proc_subpath`: total on all descriptor numbers ≥ 0, injective -/

theorem decimal_injective {a b : Nat} (h : Path.decimal a = Path.decimal b) : a = b := by
  rw [← KPath.parse_decimal a, h, KPath.parse_decimal]

/-- every descriptor number from 0 upwards has a procfs sub-path (0 included: finding F2) -/
theorem C09_proc_subpath_total (fd : Fd) (h : 0 ≤ fd) :
    Sys.procSubpath fd = .ok (b!"fd/" ++ Path.decimal fd.toNat) :=
  KRun.procSubpath_nonneg fd h

theorem C09_proc_subpath_zero : Sys.procSubpath 0 = .ok b!"fd/0" := by
  rw [C09_proc_subpath_total 0 (by decide)]; rfl

/-- different descriptor numbers name different magic-links -/
theorem C09_proc_subpath_injective (a b : Fd) (ha : 0 ≤ a) (hb : 0 ≤ b)
    (h : Sys.procSubpath a = Sys.procSubpath b) : a = b := by
  rw [C09_proc_subpath_total a ha, C09_proc_subpath_total b hb] at h
  have h2 : Path.decimal a.toNat = Path.decimal b.toNat := by
    have := Except.ok.inj h
    exact List.append_cancel_left this
  have h3 := decimal_injective h2
  have ha' : (a.toNat : Int) = a := Int.toNat_of_nonneg ha
  have hb' : (b.toNat : Int) = b := Int.toNat_of_nonneg hb
  rw [← ha', ← hb', h3]

/-- creation flags are refused before any system call -/
theorem C09_creation_flags_refused (env : Env) (fd : Fd) (flags : Nat)
    (h : hasAny flags (O_CREAT ||| O_EXCL) = true ∨ hasAll flags O_TMPFILE = true) :
    Procfs.reopen env fd flags = Prog.ret (.error .invalidArgument) := by
  unfold Procfs.reopen
  simp only [Bool.or_eq_true_iff.mpr h, ↓reduceIte]
  rfl

/-- otherwise `reopen` is: `fstat` the descriptor; a symlink ⇒ `ELOOP`; else
`open_follow(thread-self, "fd/<n>", flags without O_NOFOLLOW)` on the global procfs handle -/
theorem C09_reopen_shape (env : Env) (fd : Fd) (flags : Nat) (hfd : 0 ≤ fd)
    (h : (hasAny flags (O_CREAT ||| O_EXCL) || hasAll flags O_TMPFILE) = false) :
    Procfs.reopen env fd flags =
      M.bind' (Sys.fstatat fd []) fun st =>
        if st.isSymlink then throw (.os ELOOP)
        else Procfs.openFollowH env env.proc .threadSelf (b!"fd/" ++ Path.decimal fd.toNat)
              (clearBits flags O_NOFOLLOW) := by
  unfold Procfs.reopen
  simp only [h, Bool.false_eq_true, ↓reduceIte]
  congr 1
  funext st
  refine ite_congr rfl (fun _ => rfl) fun _ => ?_
  rw [C09_proc_subpath_total fd hfd]
  rfl

/-- `O_NOFOLLOW` never reaches the final open: it is cleared, everything else is kept -/
theorem C09_nofollow_stripped (flags : Nat) :
    hasAny (clearBits flags O_NOFOLLOW) O_NOFOLLOW = false ∧
    ∀ m, m &&& O_NOFOLLOW = 0 → (clearBits flags O_NOFOLLOW) &&& m = flags &&& m :=
  ⟨by simp [hasAny, clearBits_and_self], fun m hm => clearBits_and _ _ _ hm⟩

/-- a handle that refers to a symlink: for every environment, if the `fstat` says so the
result is `ELOOP` and nothing else was done -/
theorem C09_symlink_refused (env : Env) (fd : Fd) (flags : Nat) (hfd : 0 ≤ fd)
    (hf : (hasAny flags (O_CREAT ||| O_EXCL) || hasAll flags O_TMPFILE) = false)
    (h h' : Hist) (r : Except Err Fd) (mode uid ino : Nat) (rest : List Nat)
    (hlnk : mode &&& S_IFMT = S_IFLNK)
    (hr : Runs (Procfs.reopen env fd flags) h h' r)
    (hans : (h ++ [(.fstatat fd [] STAT_FLAGS, .nums (mode :: uid :: ino :: rest))]) <+: h') :
    r = .error (.os ELOOP) ∧ h' = h ++ [(.fstatat fd [] STAT_FLAGS, .nums (mode :: uid :: ino :: rest))] := by
  rw [C09_reopen_shape env fd flags hfd hf] at hr
  obtain ⟨hm, x, h1, h2⟩ := Runs.bind_inv hr
  obtain ⟨hbad, _⟩ | ⟨resp, hk⟩ := wrapper_inv h1
  · exact absurd (.inr hfd) hbad
  · -- the answer the wrapper got is the one recorded in the history
    have hpre : (h ++ [(Call.fstatat fd [] STAT_FLAGS, resp)]) <+: h' := hk.isPrefix.trans h2.isPrefix
    obtain rfl : resp = .nums (mode :: uid :: ino :: rest) := by
      have h3 := (List.prefix_of_prefix_length_le hpre hans (by simp)).eq_of_length (by simp)
      simpa using h3
    obtain ⟨rfl, rfl⟩ := Runs.ret_inv hk
    have : ({ mode := mode, uid := uid, ino := ino } : Sys.Stat).isSymlink = true := by
      simp [Sys.Stat.isSymlink, hlnk]
    simp only [this, ↓reduceIte] at h2
    obtain ⟨rfl, rfl⟩ := Runs.ret_inv h2
    exact ⟨rfl, rfl⟩

/-- **No fall-back on an unrelated failure (findings F22 and F25, repaired).**  For every environment: when
`open_follow` (the heart of `reopen`) succeeds, its readlink probe either succeeded or failed with
`ENAMETOOLONG` (a link whose target the kernel cannot print: the file was moved below a path longer than
`PATH_MAX`) — then the target is a link and the result is that of the *following* half: the final open follows
it inside the verified parent directory — or it failed with exactly `EINVAL`/`ENOENT` ("not a symlink" /
"no such file") and the result is that of the no-follow open.  A probe that fails for any other reason
(`EMFILE`, `ENOMEM`, `EINTR`, `EIO`, …) is the result of the call: it cannot turn into an
`O_NOFOLLOW` open that returns the magic-link itself instead of the handle's inode. -/
theorem C09_no_fallback_on_unrelated_failure (env : Env) (hd : ProcH) (base : Procfs.Base) (sub : Bytes) (fl : Nat)
    {h h' : Hist} {fd : Fd}
    (hr : Runs (Procfs.openFollowH env hd base sub fl) h h' (.ok fd)) :
    ∃ hm x fl', Runs (Procfs.readlinkH env hd base (Path.stripTrailingSlash sub).1) h hm x ∧
      ((((∃ b, x = .ok b) ∨ x = .error (.os ENAMETOOLONG)) ∧
          Runs (Procfs.openFollowTail env hd base (Path.stripTrailingSlash sub).1 fl') hm h' (.ok fd)) ∨
       ((x = .error (.os EINVAL) ∨ x = .error (.os ENOENT)) ∧
          Runs (Procfs.openH env Procfs.retryFuel hd base (Path.stripTrailingSlash sub).1 fl') hm h' (.ok fd))) := by
  unfold Procfs.openFollowH at hr
  dsimp only at hr
  generalize (if (Path.stripTrailingSlash sub).2 = true then fl ||| O_DIRECTORY else fl) = fl' at hr
  obtain ⟨_, hr⟩ := Runs.unless_ok hr
  obtain ⟨hm, probe, h1, h2⟩ := Runs.mbind_ok hr
  refine ⟨hm, probe, fl', Runs.try_ok h1, ?_⟩
  cases probe with
  | ok b => exact .inl ⟨.inl ⟨b, rfl⟩, h2⟩
  | error e =>
    obtain ⟨hc, h2⟩ | ⟨_, h2⟩ := Runs.ite_inv h2
    · exact .inr ⟨hc.imp (congrArg _) (congrArg _), h2⟩
    · obtain ⟨hc, h2⟩ | ⟨_, h2⟩ := Runs.ite_inv h2
      · exact .inl ⟨.inr (congrArg _ hc), h2⟩
      · exact (Runs.throw_ok h2).elim

/-- **The one followed open is made only after its link was seen on its directory's own mount.**  For every
environment: a successful following half of `open_follow` (hence every successful `reopen`) consists of a successful
`ProcfsHandle::open(parent, O_PATH|O_DIRECTORY)` — whose result was verified on the descriptor itself to be on the
handle's procfs mount (`C06_lookup_verified`) —, then `statx` of that directory and `statx` of the final component in
it, whose answers stand for the same mount (nothing is mounted on the link), then the library's only `openat` without
`O_NOFOLLOW`, on (that directory, that single component), whose answer is the returned descriptor, then the close of
the directory.  What the link leads to is then the kernel's business (a magic-link `fd/<n>` leads to the open file
itself); on a procfs tree with mounts that is `C09_reopen_on_mounts`. -/
theorem C09_follow_verified (env : Env) (hd : ProcH) (base : Procfs.Base) (sub : Bytes) (fl : Nat) {h h' : Hist} {fd : Fd}
    (hr : Runs (Procfs.openFollowTail env hd base sub fl) h h' (.ok fd)) :
    ∃ parent trailing pfd h1 h2 h3 rdir rlink rc,
      Path.pathSplit sub = .ok (parent, some trailing) ∧
      Runs (Procfs.openH env Procfs.retryFuel hd base parent (O_PATH ||| O_DIRECTORY)) h h1 (.ok pfd) ∧
      (h1 ++ [(.statx pfd [] STAT_FLAGS STATX_WANT, rdir)]) <+: h2 ∧
      (h2 ++ [(.statx pfd trailing STAT_FLAGS STATX_WANT, rlink)]) <+: h3 ∧
      mntOf rdir = mntOf rlink ∧
      h' = h3 ++ [(Call.openat pfd trailing (fl ||| O_CLOEXEC ||| O_NOCTTY) 0, Resp.fd fd), (Call.close pfd, rc)] := by
  unfold Procfs.openFollowTail at hr
  obtain ⟨_, ⟨parent, tr⟩, h0, hk⟩ := Runs.mbind_ok hr
  obtain ⟨rfl, hs⟩ := Runs.ofExcept_ok h0
  cases tr with
  | none => exact (Runs.throw_ok hk).elim
  | some trailing =>
    obtain ⟨hA, pfd, hopen, hk⟩ := Runs.mbind_ok hk
    obtain ⟨hB, pm, hfetch, hk⟩ := Runs.mbind_ok hk
    obtain ⟨rdir, hpre1, hmnt1⟩ := fetchMntId_inv (Runs.onErr_ok hfetch)
    obtain ⟨hC, _, hver, hk⟩ := Runs.mbind_ok hk
    obtain ⟨rlink, hpre2, hmnt2⟩ := fetchMntId_inv (verifySameMnt_ok (Runs.onErr_ok hver))
    obtain ⟨_, hy, hcl⟩ := Runs.try_then_ok hk
    obtain ⟨rc, rfl⟩ := close_inv hcl
    exact ⟨parent, trailing, pfd, hA, hB, hC, rdir, rlink, rc, hs, hopen, hpre1, hpre2, hmnt1.trans hmnt2.symm,
      by rw [openatFollow_ok_inv hy]; simp⟩

open KProc KProcOpen KProcReopen in
/-- **`reopen` on any procfs tree with any mount layout** (`Proofs/KProcOpen.lean`, `KProcReopen.lean`; the procfs
handle is the one on the tree's base directory, not masked, emulated resolver; `hprobe`: `thread-self` exists).  A
descriptor `reopen(fd)` returns comes from an entry `fd/<fd>` that is an entry, on the handle's own mount, of a directory
on the handle's own mount, and when that entry is a magic-link (as every real `fd/<n>` is) the descriptor is what it
leads to (`PWorld.target`): an object that was mounted over `thread-self`, over its `fd` directory or over the
magic-link itself is never returned (that the call then fails with `EXDEV` is `C07_trailing_overmounted`).  (First disjunct of
`OnOwnMount`: an object of the procfs mount itself, the no-follow open of a path that is not a link — impossible for a
real `fd/<n>` entry.) -/
theorem C09_reopen_on_mounts {w : PWorld} (hw : PWF w) (env : Env) (fd : Fd) (hfd : 0 ≤ fd) (flags : Nat)
    (hproc : env.proc = handleOf w)
    (hprobe : Prog.prun w (Procfs.intoPath .threadSelf w.base) = .ok b!"thread-self") (o : Fd)
    (h : Prog.prun w (Procfs.reopen env fd flags) = .ok o) :
    OnOwnMount w (Path.decimal fd.toNat) (clearBits flags O_NOFOLLOW) o :=
  reopen_on_own_mount hw env fd hfd flags hproc hprobe o h

open KProc KProcOpen KProcReopen in
/-- the same for `open_follow` with any base and any sub-path `parent/trailing` -/
theorem C09_open_follow_on_mounts {w : PWorld} (hw : PWF w) (env : Env) (base : Procfs.Base) (sub parent trailing : Bytes)
    (fl : Nat) (hprobe : Prog.prun w (Procfs.intoPath base w.base) = .ok (basePath base))
    (hsub : SubOk sub parent trailing) (o : Fd)
    (h : Prog.prun w (Procfs.openFollowH env (handleOf w) base sub fl) = .ok o) :
    OnOwnMount w trailing fl o :=
  open_follow_on_own_mount hw env base sub parent trailing fl hprobe hsub o h

/-! ## Non-vacuity -/

open KProcReopen in
example : Prog.prun exampleWorldR (Procfs.reopen envR 3 O_RDONLY) = .ok 50 := exR_reopen

example : Sys.procSubpath 1023 = .ok (b!"fd/" ++ Path.decimal 1023) := C09_proc_subpath_total 1023 (by decide)
section
open World
example : parseDigits (Path.decimal 40960) = 40960 := KPath.parse_decimal _
end

/-! ## `path_strip_trailing_slash` (the first thing `open_follow` does to its sub-path)

The trailing slashes of the caller's sub-path become `O_DIRECTORY`; the function is
specified here for every byte string. -/

open Path


theorem dropWhile_decomp (l : Bytes) :
    ∃ k, l = List.replicate k slash ++ l.dropWhile (· = slash) ∧
      (l.dropWhile (· = slash)).head? ≠ some slash := by
  induction l with
  | nil => exact ⟨0, rfl, by simp⟩
  | cons a t ih =>
    by_cases h : a = slash
    · obtain ⟨k, hk, hh⟩ := ih
      refine ⟨k + 1, ?_, ?_⟩
      · subst h
        simp only [List.dropWhile_cons, decide_true, ↓reduceIte, List.replicate_succ, List.cons_append]
        exact congrArg _ hk
      · subst h; simpa [List.dropWhile_cons] using hh
    · refine ⟨0, ?_, ?_⟩
      · simp [h]
      · simp [h]

theorem stripped_decomp (p : Bytes) :
    ∃ k, p = (p.reverse.dropWhile (· = slash)).reverse ++ List.replicate k slash ∧
      (p.reverse.dropWhile (· = slash)).reverse.getLast? ≠ some slash := by
  obtain ⟨k, hk, hh⟩ := dropWhile_decomp p.reverse
  refine ⟨k, ?_, ?_⟩
  · have := congrArg List.reverse hk
    simpa using this
  · simpa [List.getLast?_reverse] using hh

/-- `path_strip_trailing_slash`, specified: the result is the input with `k` trailing slashes
removed, the flag says whether any were (`k > 0`), and the result ends in a slash only when it
is the lone `/` that stands for an all-slash input -/
theorem C09_strip_spec (p : Bytes) :
    ∃ k, p = (stripTrailingSlash p).1 ++ List.replicate k slash ∧
      ((stripTrailingSlash p).2 = true ↔ 0 < k) ∧
      ((stripTrailingSlash p).1.getLast? = some slash → (stripTrailingSlash p).1 = [slash]) := by
  obtain ⟨k, hk, hl⟩ := stripped_decomp p
  unfold stripTrailingSlash
  dsimp only
  generalize (p.reverse.dropWhile (· = slash)).reverse = s at hk hl
  subst hk
  -- `p` is `s` followed by `k` slashes, `s` not ending in one: the branch taken is a matter of `s = []` and `k`
  by_cases hs : s = []
  · subst hs
    match k with
    | 0 => exact ⟨0, by simp, by simp, by simp⟩
    | 1 => exact ⟨0, by simp, by simp, fun _ => by simp⟩
    | k + 2 => exact ⟨k + 1, by simp [List.replicate_succ], by simp, fun _ => by simp⟩
  · rw [if_neg hs]
    match k with
    | 0 => exact ⟨0, by simp, by simp, fun hg => absurd (by simpa using hg) hl⟩
    | k + 1 => exact ⟨k + 1, by simp, by simp, fun hg => absurd (by simpa using hg) hl⟩

/-- the flag (which makes `open_follow` add `O_DIRECTORY`) is set exactly when the path was changed -/
theorem C09_strip_flag_iff_changed (p : Bytes) :
    (stripTrailingSlash p).2 = true ↔ (stripTrailingSlash p).1 ≠ p := by
  obtain ⟨k, hk, hf, _⟩ := C09_strip_spec p
  rw [hf]
  have hlen := congrArg List.length hk
  simp only [List.length_append, List.length_replicate] at hlen
  constructor
  · intro h0 he
    rw [he] at hlen; omega
  · intro hne
    cases k with
    | zero => simp at hk; exact absurd hk.symm hne
    | succ n => omega

/-- a path without a trailing slash is left alone -/
theorem C09_strip_fixed (p : Bytes) (h : p.getLast? ≠ some slash) : stripTrailingSlash p = (p, false) := by
  obtain rfl | ⟨q, c, rfl⟩ := List.eq_nil_or_concat p
  · rfl
  · rw [List.concat_eq_append] at h ⊢
    exact KOpen.strip_snoc q c fun hc => h (by simp [hc])

example : stripTrailingSlash b!"fd/3//" = (b!"fd/3", true) := by decide
example : stripTrailingSlash b!"///" = (b!"/", true) := by decide
example : stripTrailingSlash b!"/" = (b!"/", false) := by decide

/-- stripping is idempotent: what `open_follow` works with needs no second pass -/
theorem C09_strip_idempotent (p : Bytes) :
    stripTrailingSlash (stripTrailingSlash p).1 = ((stripTrailingSlash p).1, false) := by
  obtain ⟨_, _, _, hg⟩ := C09_strip_spec p
  by_cases h : (stripTrailingSlash p).1.getLast? = some slash
  · rw [hg h]; decide
  · exact C09_strip_fixed _ h

