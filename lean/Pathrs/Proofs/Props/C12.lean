import Pathrs.Proofs.Rely
import Pathrs.Proofs.KProbe
import Pathrs.Proofs.RunsWorld
import Pathrs.Proofs.MkExact

/-!
# C12 — `mkdir_all` creates exactly the missing directories and converges under races

* `C12_mode_refused`: a mode with bits outside `0o1777` (file-type, setuid, setgid bits) is
  refused before any call.
* `C12_empty_refused`: the empty path is `ENOENT` before any call (finding F20, repaired).
* `C03_mkdir_all_targets` (Props/C03.lean): for every environment, every `mkdirat`/`openat` of the
  creating loop names one proper component (never `..`, `.` or a slash) below the directory
  it just opened with `O_NOFOLLOW|O_DIRECTORY`, given that the components are proper names
  (`remainingParts_proper`; the refusal of a `..` among the missing components is the test in `Root.mkdirFrom`,
  part of the program, not a theorem).
* `C12_loop_chain`: for every environment (racing callers included), a successful creating loop
  is, component by component: `mkdirat(cur, part, perm)` answered with success *or* `EEXIST`
  (somebody else created it — the race is tolerated), then `openat(cur, part,
  O_NOFOLLOW|O_DIRECTORY|O_CLOEXEC|O_NOCTTY)` answered with the next directory, then `close(cur)`;
  the returned handle is the last directory opened that way.  So the handle is the directory
  reached by walking the missing components one `O_NOFOLLOW|O_DIRECTORY` step at a time from the
  partial-lookup handle, whoever created them — which is why racing callers end at the same
  directories.

* `C12_converges` (rely/guarantee, `Proofs/Rely.lean`): run against a mutable kernel state
  (`KS`: directory entries, kinds, id allocator) with *environment steps interleaved before every
  system call* that are only required to add directories (`AddsDirs` — what any number of other
  `mkdir_all` callers do), the creating loop of the model **succeeds**, returns the directory
  reached by walking the components in the final state (`kwalk`), and the whole history — its
  own steps included — only added directories (the guarantee, so N callers compose).  The
  precondition is that whatever already exists of the chain consists of directories (`Pre`),
  which is what the partial lookup establishes.

* `C12_target_is_spec` (refinement against the kernel specification, `KProbe.run_partialTarget`): on an unmodified well-formed tree the partial lookup of `mkdir_all` — on
  either backend — hands the creating loop the object after the *longest resolvable prefix* of the
  path (`pfx … j = ok handle`, `pfx … (j+1) = ENOENT`) and exactly the remaining components that are
  not `""`/`"."` (`remainingParts rem = (comps.drop j).filter nd`); or, when the whole path resolves,
  that object and nothing to create.

* `C12_exact` (sequential refinement against the mutable kernel state `KS`, `Proofs/MkExact.lean`): alone on the
  tree, the creating loop succeeds, returns the directory at the end of the chain, and the final state *is* the
  initial one with one `mkdirat` for every component that was missing, in order (`chainAdd`) — nothing else differs;
  what existed is untouched and every new entry is a directory (`C12_exact_adds`); when the whole chain exists nothing
  changes (`C12_exact_existing`).

The frame condition on the real filesystem, the requested mode and the agreement of racing
callers through the partial lookup are decided by the effect oracle and the racing-threads
suite of the check; each thread's transcript is replayed through the model.
-/

open K Runs

theorem C12_mode_refused (env : Env) (root : Root) (path : Bytes) (perm : Nat)
    (h : clearBits perm 0o1777 ≠ 0) : Root.mkdirAll env root path perm = throw .invalidArgument := by
  unfold Root.mkdirAll
  rw [if_pos h, ite_self]

theorem C12_empty_refused (env : Env) (root : Root) (perm : Nat) (h1 : ¬ clearBits perm 0o7777 ≠ 0)
    (h2 : ¬ clearBits perm 0o1777 ≠ 0) : Root.mkdirAll env root [] perm = throw (.os ENOENT) := by
  unfold Root.mkdirAll
  rw [if_neg h1, if_neg h2, if_pos rfl]

theorem mkdirTolerant_ok_inv {cur : Fd} {part : Bytes} {perm : Nat} {h h' : Hist}
    (hr : Runs (Root.mkdirTolerant cur part perm) h h' (.ok ())) :
    ∃ resp, (h ++ [(Call.mkdirat cur part perm, resp)]) <+: h' ∧ (resp = .unit ∨ resp = .err EEXIST) := by
  rw [Root.mkdirTolerant_eq] at hr
  obtain ⟨x, hx, he⟩ := Runs.map_inv hr
  rcases hotfix_unit_inv hx with rfl | ⟨resp, hpre, ⟨hresp, _⟩ | ⟨e, hresp, rfl⟩ | ⟨s, rfl⟩⟩
  · cases he
  · exact ⟨resp, hpre, .inl hresp⟩
  · refine ⟨resp, hpre, .inr ?_⟩
    -- `tolRes` lets only `EEXIST` pass
    by_cases hee : e = EEXIST
    · rw [hresp, hee]
    · have : Err.os e ≠ Err.os EEXIST := fun hc => hee (Err.os.inj hc)
      simp only [Root.tolRes, this, and_false, ↓reduceIte, reduceCtorEq] at he
  · cases he

/-- what a successful creating loop looks like, component by component -/
def Steps (perm : Nat) : Fd → List Bytes → Hist → Hist → Fd → Prop
  | cur, [], h, h', fd => h' = h ∧ fd = cur
  | cur, part :: rest, h, h', fd =>
    Path.containsSlash part = false ∧
    ∃ resp hm1 next rc,
      (h ++ [(Call.mkdirat cur part perm, resp)]) <+: hm1 ∧ (resp = .unit ∨ resp = .err EEXIST) ∧
      Steps perm next rest
        (hm1 ++ [(Call.openat cur part (O_NOFOLLOW ||| O_DIRECTORY ||| O_NOFOLLOW ||| O_CLOEXEC ||| O_NOCTTY) 0, Resp.fd next),
                 (Call.close cur, rc)]) h' fd

theorem C12_loop_chain (perm : Nat) (parts : List Bytes) : ∀ (cur : Fd) {h h' : Hist} {fd : Fd},
    Runs (Root.mkdirLoop perm cur parts) h h' (.ok fd) → Steps perm cur parts h h' fd := by
  induction parts with
  | nil =>
    intro cur h h' fd hr
    unfold Root.mkdirLoop at hr
    obtain ⟨hh, he⟩ := ret_inv hr
    cases he
    exact ⟨hh, rfl⟩
  | cons part rest ih =>
    intro cur h h' fd hr
    unfold Root.mkdirLoop at hr
    rcases ite_inv hr with ⟨_, hr⟩ | ⟨hns, hr⟩
    · obtain ⟨_, _, _, hr2⟩ := mbind_ok hr
      exact (throw_ok hr2).elim
    · simp only [M.bind_def] at hr
      obtain ⟨hm1, _, h1, hr2⟩ := mbind_ok hr
      obtain ⟨resp, hpre, hresp⟩ := mkdirTolerant_ok_inv (onErr_ok h1)
      obtain ⟨hm2, next, h2, hr3⟩ := mbind_ok hr2
      have ho := openat_ok_inv (onErr_ok h2)
      obtain ⟨hm3, _, h3, hr4⟩ := mbind_ok hr3
      obtain ⟨rc, hclose⟩ := close_inv (lift_ok h3)
      refine ⟨by simpa using hns, resp, hm1, next, rc, hpre, hresp, ?_⟩
      have := ih next hr4
      rw [hclose, ho] at this
      simpa using this

/-- **convergence under races** (restated from `Proofs/Rely.lean`) -/
theorem C12_converges (perm : Nat) (parts : List Bytes) (cur : Fd) (w w' : KS) (t : Hist) (r : Except Err Fd)
    (ha : Alloc w) (hc : 0 ≤ cur) (hd : w.isDir cur = true) (hns : ∀ p ∈ parts, Path.containsSlash p = false)
    (hpre : Pre w cur parts) (hr : RunsT (Root.mkdirLoop perm cur parts) t r) (hv : Valid w t w') :
    ∃ fd, r = .ok fd ∧ kwalk w' cur parts = some fd ∧ AddsDirs w w' ∧ Alloc w' :=
  mkdirLoop_converges perm parts cur w w' t r ha hc hd hns hpre hr hv

/-- non-vacuity: the run for one missing component: `mkdirat` acknowledged, the new directory opened, the old
one closed -/
example : Steps 0o755 5 [b!"a"] []
    [(Call.mkdirat 5 b!"a" 0o755, Resp.unit),
     (Call.openat 5 b!"a" (O_NOFOLLOW ||| O_DIRECTORY ||| O_NOFOLLOW ||| O_CLOEXEC ||| O_NOCTTY) 0, Resp.fd 6),
     (Call.close 5, Resp.unit)] 6 := by
  refine ⟨by decide, .unit, [(Call.mkdirat 5 b!"a" 0o755, Resp.unit)], 6, .unit, ?_, Or.inl rfl, ?_⟩
  · exact List.prefix_refl _
  · exact ⟨rfl, rfl⟩

/-! ### the starting point of the creating loop, on a world -/

open KRun KSpec World KProbe SStack in
theorem C12_target_is_spec {w : World} (hw : w.WF) (r : Resolver) (path : Bytes) (hp : path ≠ [])
    (hnul : path.contains 0 = false) {h hm : Hist} {handle : Fd} {rem : Option Bytes}
    (hres : Runs (Root.partialTarget (kenv w) { fd := w.root, resolver := r } path) h hm (.ok (handle, rem)))
    (l : Hist) (hl : hm = h ++ l) (ha : AnswersFrom w l) :
    (rem = none ∧ kresolve w (if r.emulated then ecfg r.rflags false else kcfgK w r.rflags false) w.root
        (Path.rawComponents path) 0 = .ok handle) ∨
    (∃ j, pfx w (if r.emulated then ecfg r.rflags false else kcfgK w r.rflags false) (Path.rawComponents path) j = .ok handle ∧
      pfx w (if r.emulated then ecfg r.rflags false else kcfgK w r.rflags false) (Path.rawComponents path) (j + 1) = .error ENOENT ∧
      Root.remainingParts rem = ((Path.rawComponents path).drop j).filter nd) := by
  have hd := Runs.world_det (w := w) hres l hl ha
  have hs := run_partialTarget hw r path hp hnul _ rfl
  cases hk : kresolve w (if r.emulated then ecfg r.rflags false else kcfgK w r.rflags false) w.root
      (Path.rawComponents path) 0 with
  | ok o =>
    rw [hk, ← hd] at hs
    cases hs
    exact Or.inl ⟨rfl, rfl⟩
  | error e =>
    rw [hk] at hs
    by_cases hen : e = ENOENT
    · simp only [hen, ↓reduceIte] at hs
      obtain ⟨j, o, rm, g0, g1, g2, g3⟩ := hs
      rw [← hd] at g0
      cases g0
      exact Or.inr ⟨j, g1, g2, g3⟩
    · simp only [hen, ↓reduceIte] at hs
      rw [← hd] at hs
      cases hs

/-! ### exactly the missing directories -/

open MkExact in
theorem C12_exact (perm : Nat) (parts : List Bytes) (cur : Fd) (w : KS) (ha : Alloc w) (hc : 0 ≤ cur)
    (hd : w.isDir cur = true) (hns : ∀ p ∈ parts, Path.containsSlash p = false) (hpre : Pre w cur parts) :
    ∃ fd, execK w (Root.mkdirLoop perm cur parts) = (chainAdd w cur parts, .ok fd) ∧
      kwalk (chainAdd w cur parts) cur parts = some fd :=
  mkdirLoop_exact perm parts cur w ha hc hd hns hpre

open MkExact in
theorem C12_exact_adds (w : KS) (ha : Alloc w) (cur : Fd) (parts : List Bytes) (hd : w.isDir cur = true)
    (hpre : Pre w cur parts) : AddsDirs w (chainAdd w cur parts) ∧ Alloc (chainAdd w cur parts) :=
  chainAdd_adds w ha cur parts hd hpre

open MkExact in
theorem C12_exact_existing (w : KS) (cur fd : Fd) (parts : List Bytes) (h : kwalk w cur parts = some fd) :
    chainAdd w cur parts = w :=
  chainAdd_existing w cur fd parts h

