import Pathrs.Proofs.AttackOps
import Pathrs.Proofs.Props.C14

/-!
# C03 (attack half) — the mutating single-entry operations against an attacker who rearranges the tree between any two
system calls

`Attack.runSeq`: the `i`-th system call of the operation is answered by the world of moment `i`; nothing relates the
worlds of different moments (the attacker renames, exchanges, replaces, removes, moves things out of and into the root
as it likes between any two calls), and how the kernel of a moment answers a mutating call is arbitrary
(`World.mutAns`).  For a `Root` on the emulated resolver: a successful `remove_file`/`remove_dir`, `create` (every inode
type but hard links), `create_file` and `rename` consists of the parent lookup(s), exactly one mutating call and the
close(s) of the parent descriptor(s), and every parent descriptor refers to an object that the kernel's `d_path` placed
below the root at some moment *before* the call was made.  For `remove_*` and `create_file` the statement spells the
call out, on (parent descriptor, final name); for `create` and `rename` it says of the call only that it is a mutating
one (`isMutating`): that it names the parent descriptor(s) is read off `Root.createCall` and `Sys.renameat2`, not stated.
(The shape of a successful run is `C14_*_shape` of `Props/C14.lean`.)
-/

open K Attack AttackOps

theorem C03_remove_under_attack (ws : Nat → World) (root : Fd) (rc : List Bytes) (m : Nat) (ha : Attacker ws root rc m)
    (path : Bytes) (rflags : Nat) (isDir : Bool) (i0 : Nat)
    (h : (runSeq ws i0 (Root.removeInode (aenv m) (eroot root rflags) path isDir)).1 = .ok ()) :
    ∃ parent name dir pre rcl H,
      Path.pathSplit path = .ok (parent, some name) ∧
      Runs (Root.removeInode (aenv m) (eroot root rflags) path isDir) [] H (.ok ()) ∧ AnsSeq ws i0 H ∧
      H = pre ++ [(Call.unlinkat dir name (if isDir then AT_REMOVEDIR else 0), Resp.unit), (Call.close dir, rcl)] ∧
      ∃ i p, i0 ≤ i ∧ i < i0 + pre.length ∧ (ws i).dpath dir = some p := by
  obtain ⟨H, hruns, _, hans⟩ := runSeq_ok h
  obtain ⟨parent, name, dir, hm, rcl, hsplit, hres, hH⟩ := C14_remove_shape _ _ _ _ hruns
  exact ⟨parent, name, dir, hm, rcl, H, hsplit, hruns, hans, hH,
    resolve_sub_under_attack ha hans hres ⟨_, hH.symm⟩⟩

theorem C03_create_file_under_attack (ws : Nat → World) (root : Fd) (rc : List Bytes) (m : Nat) (ha : Attacker ws root rc m)
    (path : Bytes) (rflags flags perm : Nat) (i0 : Nat) (fd : Fd)
    (h : (runSeq ws i0 (Root.createFile (aenv m) (eroot root rflags) path flags perm)).1 = .ok fd) :
    ∃ parent name dir pre rcl H,
      Path.pathSplit path = .ok (parent, some name) ∧ name ≠ Path.dot ∧ name ≠ Path.dotdot ∧
      Runs (Root.createFile (aenv m) (eroot root rflags) path flags perm) [] H (.ok fd) ∧ AnsSeq ws i0 H ∧
      H = pre ++ [(Call.openat dir name (flags ||| O_CREAT ||| O_NOFOLLOW ||| O_CLOEXEC ||| O_NOCTTY) perm, Resp.fd fd),
                  (Call.close dir, rcl)] ∧
      ∃ i p, i0 ≤ i ∧ i < i0 + pre.length ∧ (ws i).dpath dir = some p := by
  obtain ⟨H, hruns, _, hans⟩ := runSeq_ok h
  obtain ⟨parent, name, dir, hm, rcl, hsplit, hdot, hdd, hres, hH⟩ := C14_createFile_shape _ _ _ _ _ hruns
  exact ⟨parent, name, dir, hm, rcl, H, hsplit, hdot, hdd, hruns, hans, hH,
    resolve_sub_under_attack ha hans hres ⟨_, hH.symm⟩⟩

theorem C03_create_under_attack (ws : Nat → World) (root : Fd) (rc : List Bytes) (m : Nat) (ha : Attacker ws root rc m)
    (path : Bytes) (rflags : Nat) (ty : InodeType) (hty : ∀ t, ty ≠ .hardlink t) (i0 : Nat)
    (h : (runSeq ws i0 (Root.create (aenv m) (eroot root rflags) path ty)).1 = .ok ()) :
    ∃ parent name dir pre c rcl H,
      Path.pathSplit path = .ok (parent, some name) ∧
      Runs (Root.create (aenv m) (eroot root rflags) path ty) [] H (.ok ()) ∧ AnsSeq ws i0 H ∧
      isMutating c = true ∧ H = pre ++ [(c, Resp.unit), (Call.close dir, rcl)] ∧
      ∃ i p, i0 ≤ i ∧ i < i0 + pre.length ∧ (ws i).dpath dir = some p := by
  obtain ⟨H, hruns, _, hans⟩ := runSeq_ok h
  obtain ⟨parent, name, dir, hm, c, rcl, hsplit, hres, hc, hH⟩ := C14_create_shape _ _ _ _ hty hruns
  exact ⟨parent, name, dir, hm, c, rcl, H, hsplit, hruns, hans, hc, hH,
    resolve_sub_under_attack ha hans hres ⟨_, hH.symm⟩⟩

theorem C03_rename_under_attack (ws : Nat → World) (root : Fd) (rc : List Bytes) (m : Nat) (ha : Attacker ws root rc m)
    (src dst : Bytes) (rflags rnflags : Nat) (i0 : Nat)
    (h : (runSeq ws i0 (Root.rename (aenv m) (eroot root rflags) src dst rnflags)).1 = .ok ()) :
    ∃ sparent sname sdir dparent dname ddir pre c rc1 rc2 H,
      Path.pathSplit src = .ok (sparent, some sname) ∧ Path.pathSplit dst = .ok (dparent, some dname) ∧
      Runs (Root.rename (aenv m) (eroot root rflags) src dst rnflags) [] H (.ok ()) ∧ AnsSeq ws i0 H ∧
      isMutating c = true ∧ H = pre ++ [(c, Resp.unit), (Call.close sdir, rc1), (Call.close ddir, rc2)] ∧
      (∃ i p, i0 ≤ i ∧ i < i0 + pre.length ∧ (ws i).dpath sdir = some p) ∧
      (∃ i p, i0 ≤ i ∧ i < i0 + pre.length ∧ (ws i).dpath ddir = some p) := by
  obtain ⟨H, hruns, _, hans⟩ := runSeq_ok h
  obtain ⟨sparent, sname, sdir, dparent, dname, ddir, h1, h2, c, rc1, rc2, hs1, hs2, hres1, hres2, hc, hH⟩ :=
    C14_rename_shape _ _ _ _ _ hruns
  have hp2 : h2 <+: H := ⟨_, hH.symm⟩
  have hp12 : h1 <+: h2 := Runs.isPrefix hres2
  obtain ⟨i, p, hi0, hi1, hp⟩ :=
    resolve_sub_under_attack ha hans hres1 (hp12.trans hp2)
  exact ⟨sparent, sname, sdir, dparent, dname, ddir, h2, c, rc1, rc2, H, hs1, hs2, hruns, hans, hc, hH,
    ⟨i, p, hi0, Nat.lt_of_lt_of_le hi1 (Nat.add_le_add_left hp12.length_le _), hp⟩,
    resolve_sub_under_attack ha hans hres2 hp2⟩

/-! ## Non-vacuity: operations with an acknowledged mutating call do succeed under `runSeq` -/

example : (runSeq (fun _ => ackWorld) 0 (Root.removeInode (aenv ackWorld.procMnt) (eroot ackWorld.root 0) b!"a" false)).1 = .ok () :=
  ex_remove

/-- the hypotheses of `C03_create_file_under_attack` are met by an actual successful run -/
example : ∃ parent name dir pre rcl H,
    Path.pathSplit b!"a" = .ok (parent, some name) ∧ name ≠ Path.dot ∧ name ≠ Path.dotdot ∧
    Runs (Root.createFile (aenv exWorld.procMnt) (eroot exWorld.root 0) b!"a" 0 0) [] H (.ok 6) ∧
    AnsSeq (fun _ => exWorld) 0 H ∧
    H = pre ++ [(Call.openat dir name (0 ||| O_CREAT ||| O_NOFOLLOW ||| O_CLOEXEC ||| O_NOCTTY) 0, Resp.fd 6),
                (Call.close dir, rcl)] ∧
    ∃ i p, 0 ≤ i ∧ i < 0 + pre.length ∧ exWorld.dpath dir = some p :=
  C03_create_file_under_attack (fun _ => exWorld) exWorld.root exWorld.rootComps exWorld.procMnt
    (attacker_const exWorld exWorld_wf (by decide)) b!"a" 0 0 0 0 6 ex_createFile

example := C03_remove_under_attack (fun _ => ackWorld) ackWorld.root ackWorld.rootComps ackWorld.procMnt
  (attacker_const ackWorld ackWorld_wf (by decide)) b!"a" 0 false 0 ex_remove

example := C03_create_under_attack (fun _ => ackWorld) ackWorld.root ackWorld.rootComps ackWorld.procMnt
  (attacker_const ackWorld ackWorld_wf (by decide)) b!"a" 0 (.directory 0o755) (fun _ h => by cases h) 0 ex_create

example := C03_rename_under_attack (fun _ => ackWorld) ackWorld.root ackWorld.rootComps ackWorld.procMnt
  (attacker_const ackWorld ackWorld_wf (by decide)) b!"a" b!"b" 0 0 0 ex_rename
