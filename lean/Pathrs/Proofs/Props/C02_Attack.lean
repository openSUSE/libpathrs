import Pathrs.Proofs.AttackOps

/-!
# C02 — the emulated lookup, `readlink` and `open_subpath` against an attacker who rearranges the tree between any two
system calls

`C02_under_attack` is `Attack.emulated_resolve_sub` read off `runSeq`.  The other two: same attacker, a `Root` on the
emulated resolver.  `readlink` returns only bytes the kernel printed for a link that was below the root at an earlier
moment of the call; the descriptor `open_subpath` returns (the resolver's handle itself, or its re-open through
`thread-self/fd/<n>` — in `World` descriptors are identified with the objects they refer to, so the re-open of object
`n` is object `n`) refers to an object that was below the root at some moment of the call.  (`Attack.lean` rests on
`C02_emulated_checked` of `Props/C02.lean`, hence the separate file.)
-/

open K Attack AttackOps Runs

/-- **The emulated lookup against an attacker who rearranges the tree between any two system calls.**  `ws i` is the
state of the machine when the `i`-th system call of the lookup is made; nothing relates the trees of different moments
(the attacker renames, exchanges, replaces, removes, moves things out of and into the root as it likes, as often as it
likes), and none of them needs to be well-formed.  `Attacker` asks only that the root directory itself stays where it is
(`dpath root = some []` at every moment — the attacker works *inside* the tree), that it is a tree object, and one fact
about the numbering of the model's procfs objects (with a counterexample in `Proofs/Attack.lean` showing it is needed).
If the lookup returns `fd`, then at some moment `i` of the call `(ws i).dpath fd = some p`: the kernel's `d_path` placed
the object below the root — it was inside the root's tree at that moment.  An object that was outside the tree at every
moment of the call is never returned. -/
theorem C02_under_attack (ws : Nat → World) (root : Fd) (rc : List Bytes) (m : Nat)
    (ha : Attacker ws root rc m) (path : Bytes) (rflags : Nat) (nofollow : Bool) (i0 : Nat) (fd : Fd)
    (h : (runSeq ws i0 (Opath.resolve (aenv m) root path rflags nofollow)).1 = .ok fd) :
    ∃ i p, i0 ≤ i ∧ i < (runSeq ws i0 (Opath.resolve (aenv m) root path rflags nofollow)).2 ∧
      (ws i).dpath fd = some p := by
  obtain ⟨H, hruns, hlen, hans⟩ := runSeq_ok h
  exact hlen ▸ (emulated_resolve_sub ha hans hruns).2

/-- **readlink under attack**: the bytes returned are the kernel's answer, at some moment `j` of the call, to `readlinkat`
on a descriptor of an object that was below the root at an earlier moment `i` of the call -/
theorem C02_readlink_under_attack (ws : Nat → World) (root : Fd) (rc : List Bytes) (m : Nat) (ha : Attacker ws root rc m)
    (path : Bytes) (rflags : Nat) (i0 : Nat) (body : Bytes)
    (h : (runSeq ws i0 (Root.readlink (aenv m) (eroot root rflags) path)).1 = .ok body) :
    ∃ link i p j, i0 ≤ i ∧ i < j ∧ j < (runSeq ws i0 (Root.readlink (aenv m) (eroot root rflags) path)).2 ∧
      (ws i).dpath link = some p ∧ (ws j).answer (.readlinkat link [] READLINK_BUF) = .bytes body := by
  obtain ⟨H, hruns, hlen, hans⟩ := runSeq_ok h
  rw [hlen]
  unfold Root.readlink at hruns
  obtain ⟨hm, link, hres, hk⟩ := mbind_ok hruns
  obtain ⟨hm2, hy, hcl⟩ := try_then_ok hk
  have hp2 : hm2 <+: H := Runs.isPrefix hcl
  obtain ⟨i, p, hi0, hi1, hp⟩ :=
    resolve_sub_under_attack ha hans hres ((Runs.isPrefix hy).trans hp2)
  obtain ⟨hresp, hlt⟩ := ans_at hans (readlinkat_ok_inv hy) hp2
  exact ⟨link, i, p, i0 + hm.length, hi0, hi1, Nat.add_lt_add_left hlt _, hp, hresp.symm⟩

/-- **open_subpath (emulated one-shot open) under attack**: the descriptor returned — the resolver's handle itself when
it is a symlink opened with `O_PATH`, else its re-open through `thread-self/fd/<n>`, which in `World` is object `n`
again — refers to an object that was below the root at some moment of the call -/
theorem C02_open_subpath_under_attack (ws : Nat → World) (root : Fd) (rc : List Bytes) (m : Nat) (ha : Attacker ws root rc m)
    (path : Bytes) (rflags flags : Nat) (i0 : Nat) (fd : Fd)
    (h : (runSeq ws i0 (Root.openSubpath (aenv m) (eroot root rflags) path flags)).1 = .ok fd) :
    ∃ i p, i0 ≤ i ∧ i < (runSeq ws i0 (Root.openSubpath (aenv m) (eroot root rflags) path flags)).2 ∧
      (ws i).dpath fd = some p := by
  obtain ⟨H, hruns, hlen, hans⟩ := runSeq_ok h
  rw [hlen]
  unfold Root.openSubpath Resolver.openOnce at hruns
  obtain ⟨_, hruns⟩ := unless_ok hruns
  simp only [eroot, Bool.not_true, Bool.false_eq_true, ↓reduceIte, Resolver.resolve] at hruns
  obtain ⟨hm, handle, hres, hr2⟩ := mbind_ok hruns
  have hpm : hm <+: H := Runs.isPrefix hr2
  obtain ⟨⟨hnn, hev⟩, i, p, hi0, hi1, hp⟩ :=
    emulated_resolve_sub ha (hans.of_prefix hpm) hres
  have hi1 : i < i0 + H.length := Nat.lt_of_lt_of_le hi1 (Nat.add_le_add_left hpm.length_le _)
  obtain ⟨hm2, st, hst, hr3⟩ := mbind_ok hr2
  obtain ⟨_, hr3⟩ | ⟨_, hr3⟩ := ite_inv hr3
  · -- the handle is a symlink: it is returned as it is (`O_PATH`), or the call fails
    obtain ⟨_, hr3⟩ | ⟨_, hr3⟩ := ite_inv hr3
    · exact (then_throw_ok hr3).elim
    · obtain ⟨_, hr3⟩ | ⟨_, hr3⟩ := ite_inv hr3
      · cases (pure_ok hr3).2
        exact ⟨i, p, hi0, hi1, hp⟩
      · exact (then_throw_ok hr3).elim
  · -- the re-open through `thread-self/fd/<handle>` yields the handle's object again (`post_reopen`)
    obtain ⟨hm3, hy, hcl⟩ := try_then_ok hr3
    obtain ⟨l, rfl, hl⟩ :=
      (post_reopen (S := During ws i0 H.length) (fun w ⟨t, _, _, e⟩ => e ▸ ha.threadSelf_kind t) m handle hnn hev flags).runs hy
    cases (hl (kern_of_ansSeq hans (Runs.isPrefix hcl))).2
    exact ⟨i, p, hi0, hi1, hp⟩

/-! ## Non-vacuity -/

example : ∃ b, (runSeq (fun _ => exWorld) 0 (Root.readlink (aenv exWorld.procMnt) (eroot exWorld.root 0) b!"a")).1 = .ok b :=
  ⟨_, ex_readlink⟩

open Attack in
/-- the attacker model is inhabited (the attacker who does nothing), and a lookup succeeds there -/
example : (runSeq (fun _ => exWorld) 0 (Opath.resolve (aenv exWorld.procMnt) exWorld.root b!"a" 0 true)).1 = .ok 6 := ex_run

/-- non-vacuity of `C02_under_attack`: its hypotheses are met by an actual successful run (`attacker_const`, `ex_run`), and it
says that the object returned was below the root at one of the moments of the call -/
example : ∃ i p, 0 ≤ i ∧
    i < (runSeq (fun _ => exWorld) 0 (Opath.resolve (aenv exWorld.procMnt) exWorld.root b!"a" 0 true)).2 ∧
    exWorld.dpath 6 = some p :=
  C02_under_attack (fun _ => exWorld) exWorld.root exWorld.rootComps exWorld.procMnt
    (attacker_const exWorld exWorld_wf (by decide)) b!"a" 0 true 0 6 ex_run

example := C02_readlink_under_attack (fun _ => exWorld) exWorld.root exWorld.rootComps exWorld.procMnt
  (attacker_const exWorld exWorld_wf (by decide)) b!"a" 0 0 b!"a" ex_readlink

example := C02_open_subpath_under_attack (fun _ => exWorld) exWorld.root exWorld.rootComps exWorld.procMnt
  (attacker_const exWorld exWorld_wf (by decide)) b!"." 0 (O_PATH ||| O_DIRECTORY) 0 4 ex_openSubpath
