import Pathrs.Proofs.Props.C13
import Pathrs.Proofs.KEffect

/-!
# C13 — `Root::remove_all` refuses a final `.` or `..`, for the whole operation and every environment

`C13_dot_refused` (Props/C13.lean) is about the inner `RemoveAll.removeAll dir name`.  This file lifts it to
`Root.removeAll env root path`:

* `C13_root_dots_eq`: when `path_split` gives the final name `.` or `..`, the operation *is the program*
  "look the parent up in the root, close it, `InvalidArgument`" (the same as for a trailing slash).
* `C13_root_dots_refused`: hence every run (`Runs`: every sequence of answers) ends in an error — the lookup's own, or
  `InvalidArgument` — its history is the lookup's plus one `close`, and every call is a `NoRemoval` call: no
  `unlinkat`, no `dirOpen`/`dirNext`, nothing that creates or renames (`Prog.AllCalls'`, all answers; `Safe` follows).
  All of it is one `Sat` statement (`C13_root_dots_sat`); the fact about the lookup it needs is `C13Dots.resolve_nr`:
  on either backend, whatever it is answered, the resolver never scans a directory or removes anything (from the pass
  of `Lookups.lean`, like `KEffect.resolve_noMut`, whose predicate `mutates` does not speak about directory streams).
* `C13_root_dots_disciplined`: with the syscall discipline of C05 added (`Disc false ∧ NoRemoval`).
* `C13_dots_spellings` / `C13_dots_spellings_only`: the hypothesis holds exactly for `.`, `..`, `pre/.`, `pre/..`
  (any `pre`): `remove_all` does not strip or normalise the path before `path_split`, which cuts at the last slash.
-/

open Runs

/-- calls that neither remove, create or rename an entry nor scan a directory: no `unlinkat` (with or without
`AT_REMOVEDIR`), no directory-stream call, no `mkdirat`/`mknodat`/`symlinkat`/`linkat`/`renameat*` -/
def NoRemoval : Call → Prop
  | .unlinkat .. => False
  | .dirOpen _ => False
  | .dirNext _ => False
  | .mkdirat .. => False
  | .mknodat .. => False
  | .symlinkat .. => False
  | .linkat .. => False
  | .renameat .. => False
  | .renameat2 .. => False
  | _ => True

instance (c : Call) : Decidable (NoRemoval c) := by
  cases c <;> simp only [NoRemoval] <;> infer_instance

namespace C13Dots

/-- `p` makes only `NoRemoval` calls, whatever it is answered (every environment, sane or not) -/
abbrev NR {α : Type} (p : Prog α) : Prop := Prog.AllCalls' NoRemoval p

namespace NR

theorem call {α : Type} {c : Call} {k : Resp → Prog α} (hc : NoRemoval c) (hk : ∀ r, NR (k r)) :
    NR (Prog.call c k) := ⟨hc, hk⟩

theorem ret {α : Type} (a : α) : NR (Prog.ret a) := trivial

theorem isOk {α : Type} {p : M α} (hp : NR p) : NR (M.isOk p) := Prog.AllCalls'.isOk hp

end NR

theorem LookupCall.noRemoval {b nc : Bool} {I : Fd → Prop} {c : Call} (h : LookupCall b nc I c) : NoRemoval c := by
  -- by the clauses of `NoRemoval`: the nine calls it excludes are none of the lookup's; the last clause is the rest
  fun_cases NoRemoval c with
  | case10 => trivial
  | _ => exact h.elim

theorem new_nr (env : Env) : NR (Procfs.new env) :=
  Sat.allCalls' (Procfs.new_sat (b := false) (nc := false) lookupAny env) fun _ => LookupCall.noRemoval

/-- **the lookup never removes, creates, renames or scans**: `Root::resolve`, on either backend and whatever it is
answered, makes no `unlinkat`, no directory-stream call and no other entry-changing call -/
theorem resolve_nr (env : Env) (r : Resolver) (root : Fd) (path : Bytes) (nofollow : Bool) :
    NR (Resolver.resolve env r root path nofollow) :=
  Sat.allCalls' (Resolver.resolve_sat (b := false) (nc := false) lookupAny r path nofollow trivial trivial) fun _ =>
    LookupCall.noRemoval

/-! ## generic facts: `AllCalls'`, `Safe` -/

theorem allCalls'_mono {α : Type} {D D' : Call → Prop} (hd : ∀ c, D c → D' c) {p : Prog α}
    (h : Prog.AllCalls' D p) : Prog.AllCalls' D' p :=
  (allCalls'_iff_sat.mp h).allCalls' hd

theorem safe_monoD {α : Type} {D D' : Call → Prop} (hd : ∀ c, D c → D' c) {p : Prog α} {Q : α → Prop}
    (h : Safe D p Q) : Safe D' p Q :=
  Safe.monoD hd h

/-! ## `Root::remove_all` with a final `.` or `..` -/

/-- **`remove_all` of a path whose final component is `.` or `..` is, as a program, the parent lookup, the `close`
of the parent and `InvalidArgument`** — the same program as for a trailing slash
(`C03_trailing_slash_remove_all`): `RemoveAll.removeAll` is entered and refuses the name before its first call. -/
theorem C13_root_dots_eq (env : Env) (root : Root) (path parent name : Bytes)
    (hsplit : Path.pathSplit path = .ok (parent, some name))
    (hname : name = Path.dot ∨ name = Path.dotdot) :
    Root.removeAll env root path =
      M.bind' (Resolver.resolve env root.resolver root.fd parent false) fun dir =>
        M.bind' (M.lift (Sys.close dir)) fun _ => throw .invalidArgument := by
  rw [Root.removeAll_eq, Root.withParent_split env root _ hsplit]
  refine congrArg _ (funext fun dir => ?_)
  show M.bind' (M.try' (RemoveAll.removeAll (99999 + 1) dir name)) _ = _
  rw [C13_dot_refused 99999 dir name hname]
  rfl

/-- the shape of every run: either the parent lookup fails and its error is the result, with the history of the
lookup and nothing else; or it succeeds, the parent is closed, and the result is `InvalidArgument` -/
theorem C13_root_dots_runs (env : Env) (root : Root) (path parent name : Bytes)
    (hsplit : Path.pathSplit path = .ok (parent, some name))
    (hname : name = Path.dot ∨ name = Path.dotdot) {h h' : Hist} {r : Except Err Unit}
    (hr : Runs (Root.removeAll env root path) h h' r) :
    (∃ e, r = .error e ∧ Runs (Resolver.resolve env root.resolver root.fd parent false) h h' (.error e)) ∨
    (∃ dir hm rc, Runs (Resolver.resolve env root.resolver root.fd parent false) h hm (.ok dir) ∧
      h' = hm ++ [(Call.close dir, rc)] ∧ r = .error .invalidArgument) := by
  rw [C13_root_dots_eq env root path parent name hsplit hname] at hr
  rcases mbind_inv hr with ⟨hm, dir, h1, hr2⟩ | ⟨e, h1, he⟩
  · right
    rcases mbind_inv hr2 with ⟨hm2, _, h2, hr3⟩ | ⟨e, h2, _⟩
    · obtain ⟨_, hc, _⟩ := lift_inv h2
      obtain ⟨rc, hclose⟩ := close_inv hc
      obtain ⟨hh, hx⟩ := ret_inv hr3
      exact ⟨dir, hm, rc, h1, by rw [hh, hclose], hx⟩
    · obtain ⟨_, _, hx⟩ := lift_inv h2
      cases hx
  · exact Or.inl ⟨e, he, h1⟩

/-- no removing, creating, renaming or directory-scanning call and never `Ok`, whatever the environment answers -/
theorem C13_root_dots_sat (env : Env) (root : Root) (path parent name : Bytes)
    (hsplit : Path.pathSplit path = .ok (parent, some name))
    (hname : name = Path.dot ∨ name = Path.dotdot) :
    SatE AnyAnswer (fun c => NoRemoval c ∧ KEffect.mutates c = false) (Root.removeAll env root path)
      (fun _ => False) Top := by
  rw [C13_root_dots_eq env root path parent name hsplit hname]
  refine SatE.bind (V' := Top) (E' := Top) ?_ (fun _ h => h) fun dir _ =>
    SatE.bind (V' := Top) (E' := Top) (SatM.lift (.call ⟨trivial, rfl⟩ fun _ _ => .ret trivial)) (fun _ h => h)
      fun _ _ => SatE.throw trivial
  exact ((resolve_nr env root.resolver root.fd parent false).satM.and
    (KEffect.resolve_noMut env root.resolver root.fd parent false).satM).mono fun r _ => Ok.top r

end C13Dots

open C13Dots in
/-- **`Root::remove_all` refuses a final `.` or `..`, for every environment.**  Let `path_split` cut the path into
`(parent, name)` with `name` = `.` or `..` (`C13_dots_spellings`: every spelling `…/.`, `…/..`, and the bare `.`, `..`).
Then for every run — every sequence of answers, sane or not, every racing attacker —

* (a) the result is never `Ok`: it is the error of the parent lookup if that fails, and `InvalidArgument` if it
  succeeds; the history is exactly the one of the parent lookup (`Resolver.resolve … parent`, the program of C01/C02),
  followed, if it succeeded, by the one `close` of the parent descriptor.  So after the lookup nothing is opened,
  scanned or removed below the parent;
* (b) every call made is a `NoRemoval` call: no `unlinkat` (plain or `AT_REMOVEDIR`), no `dirOpen`/`dirNext`, no
  creating or renaming call (`AllCalls'`: for all answers), and none has `O_CREAT` (`KEffect.mutates`);
* the events the run appends to the history are all of that kind. -/
theorem C13_root_dots_refused (env : Env) (root : Root) (path parent name : Bytes)
    (hsplit : Path.pathSplit path = .ok (parent, some name))
    (hname : name = Path.dot ∨ name = Path.dotdot) :
    (∀ h h' r, Runs (Root.removeAll env root path) h h' r →
      r ≠ .ok () ∧
      ((∃ e, r = .error e ∧ Runs (Resolver.resolve env root.resolver root.fd parent false) h h' (.error e)) ∨
       (∃ dir hm rc, Runs (Resolver.resolve env root.resolver root.fd parent false) h hm (.ok dir) ∧
          h' = hm ++ [(Call.close dir, rc)] ∧ r = .error .invalidArgument)) ∧
      (∃ t, h' = h ++ t ∧ ∀ cr ∈ t, NoRemoval cr.1 ∧ KEffect.mutates cr.1 = false)) ∧
    Prog.AllCalls' (fun c => NoRemoval c ∧ KEffect.mutates c = false) (Root.removeAll env root path) ∧
    Safe NoRemoval (Root.removeAll env root path) (fun r => ∃ e, r = .error e) := by
  have hsat := C13_root_dots_sat env root path parent name hsplit hname
  refine ⟨fun h h' r hr => ?_, hsat.allCalls' fun _ h => h, safe_iff_sat.mpr (hsat.imp (fun _ _ _ => trivial)
    (fun _ h => h.1) fun r hr => ?_)⟩
  · obtain ⟨t, ht, hq⟩ := hsat.runs hr
    obtain ⟨hD, hQ⟩ := hq fun _ _ => trivial
    exact ⟨fun e => by rw [e] at hQ; exact hQ, C13_root_dots_runs env root path parent name hsplit hname hr, t, ht, hD⟩
  · cases r with
    | ok _ => exact hr.elim
    | error e => exact ⟨e, rfl⟩

/-- the same with the syscall discipline of C05 (`Disc false`: every call names a single component below a real
descriptor, every `openat` has `O_NOFOLLOW`): for roots and procfs handles that are real descriptors, under every
sane environment each call is disciplined *and* a `NoRemoval` call -/
theorem C13_root_dots_disciplined (env : Env) (root : Root) (path parent name : Bytes)
    (hsplit : Path.pathSplit path = .ok (parent, some name))
    (hname : name = Path.dot ∨ name = Path.dotdot) (hr : 0 ≤ root.fd) (hp : 0 ≤ env.proc.fd) :
    Safe (fun c => Disc false c ∧ NoRemoval c) (Root.removeAll env root path) (fun r => ∃ e, r = .error e) :=
  safe_iff_sat.mpr <|
    ((Root.removeAll_disc env root hr hp path).and
      (safe_iff_sat.mp (C13_root_dots_refused env root path parent name hsplit hname).2.2)).mono fun _ h => h.2

/-! ## which spellings have a final `.` / `..`

`Root::remove_all` hands the path to `path_split` as it is (no `path_strip_trailing_slash`, no normalisation), and
`path_split` cuts at the **last** slash.  So the final name is whatever follows the last slash, for every prefix. -/

/-- **every spelling `pre/.` and `pre/..` (any `pre`, no side condition) and the bare `.` and `..` split into a final
name `.` / `..`**, so `C13_root_dots_refused` applies to all of them.  (A trailing slash after the dots — `a/./` —
splits into `(a/., none)` instead and is refused by the trailing-slash rule, `C03_trailing_slash_remove_all`.) -/
theorem C13_dots_spellings (pre : Bytes) :
    Path.pathSplit (pre ++ b!"/.") = .ok (if pre = [] then b!"/" else pre, some Path.dot) ∧
    Path.pathSplit (pre ++ b!"/..") = .ok (if pre = [] then b!"/" else pre, some Path.dotdot) ∧
    Path.pathSplit b!"." = .ok (b!".", some Path.dot) ∧
    Path.pathSplit b!".." = .ok (b!".", some Path.dotdot) :=
  ⟨Path.pathSplit_append_slash pre Path.dot (by decide), Path.pathSplit_append_slash pre Path.dotdot (by decide),
   Path.pathSplit_noslash Path.dot (by decide), Path.pathSplit_noslash Path.dotdot (by decide)⟩

open Path in
/-- conversely the hypothesis of `C13_root_dots_refused` holds for *no other* paths: a path whose split has the final
name `name` is `name` itself or ends in `/name` — for `.`/`..`: it is `.`/`..` or ends in `/.` / `/..` -/
theorem C13_dots_spellings_only (path parent name : Bytes)
    (hsplit : pathSplit path = .ok (parent, some name)) :
    path = name ∨ ∃ pre, path = pre ++ slash :: name := by
  obtain ⟨_, _, ⟨rfl, _⟩ | ⟨pre, rfl, _⟩⟩ := pathSplit_some_iff.1 hsplit
  · exact Or.inl rfl
  · exact Or.inr ⟨pre, rfl⟩

example : Path.pathSplit b!"." = .ok (b!".", some Path.dot) := by rfl
example : Path.pathSplit b!".." = .ok (b!".", some Path.dotdot) := by rfl
example : Path.pathSplit b!"a/." = .ok (b!"a", some Path.dot) := by rfl
example : Path.pathSplit b!"a/.." = .ok (b!"a", some Path.dotdot) := by rfl
example : Path.pathSplit b!"/.." = .ok (b!"/", some Path.dotdot) := by rfl
example : Path.pathSplit b!"a/b/../." = .ok (b!"a/b/..", some Path.dot) := by rfl
/-- a trailing slash after the dots is the trailing-slash case, not this one -/
example : Path.pathSplit b!"a/./" = .ok (b!"a/.", none) := by rfl

/-! ## Non-vacuity -/

/-- `remove_all("a/.")` never succeeds, in any environment -/
example (env : Env) (root : Root) {h h' : Hist} {r : Except Err Unit}
    (hr : Runs (Root.removeAll env root b!"a/.") h h' r) : r ≠ .ok () :=
  ((C13_root_dots_refused env root b!"a/." b!"a" Path.dot (by rfl) (Or.inl rfl)).1 h h' r hr).1

/-- … and every call it makes, whatever it is answered, is a `NoRemoval` call -/
example (env : Env) (root : Root) : Prog.AllCalls' NoRemoval (Root.removeAll env root b!"a/.") :=
  C13Dots.allCalls'_mono (fun _ hc => hc.1)
    (C13_root_dots_refused env root b!"a/." b!"a" Path.dot (by rfl) (Or.inl rfl)).2.1

/-- the same for `a/..` and for the bare `..` (the spelling of finding F1) -/
example (env : Env) (root : Root) {h h' : Hist} {r : Except Err Unit}
    (hr : Runs (Root.removeAll env root b!"a/..") h h' r) : r ≠ .ok () :=
  ((C13_root_dots_refused env root b!"a/.." b!"a" Path.dotdot (by rfl) (Or.inr rfl)).1 h h' r hr).1
example (env : Env) (root : Root) {h h' : Hist} {r : Except Err Unit}
    (hr : Runs (Root.removeAll env root b!"..") h h' r) : r ≠ .ok () :=
  ((C13_root_dots_refused env root b!".." b!"." Path.dotdot (by rfl) (Or.inr rfl)).1 h h' r hr).1

/-- the predicate does exclude what it should -/
example : ¬ NoRemoval (.unlinkat 5 b!"x" 0) := id
example : ¬ NoRemoval (.unlinkat 5 b!"x" K.AT_REMOVEDIR) := id
example : ¬ NoRemoval (.dirOpen 5) := id
example : ¬ NoRemoval (.dirNext 5) := id
example : NoRemoval (.close 5) := trivial
/-- … and an ordinary name is *not* covered by the theorem's conclusion: `remove_all` of a proper name does unlink -/
example : ¬ Prog.AllCalls' NoRemoval (RemoveAll.removeAll 1 5 b!"x") := by
  intro h
  exact h.1

/-- the `InvalidArgument` branch is inhabited: on the kernel backend, an environment that answers the parent lookup
with descriptor 5 gives exactly `openat2(root, "a")`, `close(5)`, `InvalidArgument` -/
example : ∃ c, Runs (Root.removeAll { proc := default, openat2 := true, protectedSymlinks := 0 }
      { fd := 3, resolver := { emulated := false, rflags := 0 } } b!"a/.") []
      [(c, .fd 5), (.close 5, .unit)] (.error .invalidArgument) ∧ ∃ fl rs, c = .openat2 3 b!"a" fl 0 rs K.OPEN_HOW_SIZE :=
  ⟨_, Runs.of_trace (Root.removeAll { proc := default, openat2 := true, protectedSymlinks := 0 }
      { fd := 3, resolver := { emulated := false, rflags := 0 } } b!"a/.")
      (fun _ c => match c with | .openat2 .. => .fd 5 | _ => .unit) [], _, _, rfl⟩
