import Pathrs.Proofs.Props.C02

/-!
# C10 — a failing system call anywhere inside an operation yields a clean error

The theorems are about `Runs`, i.e. they hold for *every* sequence of kernel answers — in
particular for every placement of failing calls (single faults, repeated `EAGAIN`, descriptor
exhaustion are all just particular environments).

* **A failed call is never reported as success** (`*_ok_inv`, here and in `Proofs/Runs.lean`): if a
  system-call wrapper returns `ok`, the kernel's answer to its call was the success answer; an `err`
  answer always becomes an error value.  `createCall_ok_did_work`: a successful `Root.createCall` (the
  one `*at` call of `Root::create`'s body, hard links apart) was answered with success by the kernel.
* **Bounded retry**: `C10_eagain_bounded` — the kernel backend makes at most 16 `openat2` calls,
  then the error is `SafetyViolation`; `EAGAIN` never reaches the caller and no partial object
  is ever returned from `resolve` (its result type has no partial case).
* **Mount-id probing fails closed**: `fetchMntId_unknown_only` — "unknown" only when `statx`
  answered `ENOSYS`/`EINVAL` or without the mount-id bit; `verifySameMnt_closed` — the comparison
  succeeds only when both sides are equal (two "unknown" included), any other errno surfaces.
* **Termination**: every model program is a total Lean function (structural recursion, or
  well-founded recursion on link budget × remaining components, or explicit fuel that C08 proves
  irrelevant); there is no unbounded loop in the model for the tie to follow.

* **Error-message construction always completes** (since the repair of finding F26): the
  diagnostic reads of `/proc/thread-self` made while an error value is built (`Sys.freeze`) build
  no error value themselves — a failing probe moves on to the next spelling, and a missing
  `thread-self` falls back to the first spelling — so `failWith_inv` (`Proofs/Runs.lean`): every run of
  `Sys.failWith fds e` ends with `OsError e`, whatever those reads are answered.

Not a theorem: the first-use initialisation of process-global state, which the forked
`fault-init` suite exercises.
-/

open K Runs Procfs

theorem unlinkat_ok_inv {d : Fd} {n : Bytes} {f : Nat} {h h' : Hist}
    (hr : Runs (Sys.unlinkat d n f) h h' (.ok ())) : h' = h ++ [(Call.unlinkat d n f, Resp.unit)] :=
  hotfix_unit_ok_inv hr

/-- a call that changes the filesystem -/
def isMutating : Call → Bool
  | .mkdirat .. | .mknodat .. | .unlinkat .. | .symlinkat .. | .linkat .. | .renameat .. | .renameat2 .. => true
  | _ => false

/-- `fetch_mnt_id` reports "unknown" only for the two errnos that mean "this kernel cannot tell"
or for an answer without the mount-id bit; every other failure is an error of the lookup -/
theorem fetchMntId_unknown_only {dir : Fd} {path : Bytes} {h h' : Hist}
    (hr : Runs (fetchMntId dir path) h h' (.ok none)) :
    ∃ resp, (h ++ [(.statx dir path STAT_FLAGS STATX_WANT, resp)]) <+: h' ∧
      (resp = .err ENOSYS ∨ resp = .err EINVAL ∨ ∃ m id, resp = .nums [m, id] ∧ hasAny m STATX_WANT = false) := by
  obtain ⟨resp, hpre, ⟨m, i, rfl, hid⟩ | ⟨he, _⟩⟩ := fetchMntId_ok hr
  · refine ⟨_, hpre, .inr (.inr ⟨m, i, rfl, ?_⟩)⟩
    split at hid
    · cases hid
    · exact Bool.eq_false_iff.mpr ‹_›
  · exact ⟨resp, hpre, he.elim .inl fun h => .inr (.inl h)⟩

/-- `verify_same_mnt` fails closed: it succeeds only if the fetched id equals the handle's
(both unknown included) -/
theorem verifySameMnt_closed {rootMnt : Option Nat} {dir : Fd} {path : Bytes} {h h' : Hist}
    (hr : Runs (verifySameMnt rootMnt dir path) h h' (.ok ())) :
    ∃ hm, Runs (fetchMntId dir path) h hm (.ok rootMnt) :=
  ⟨h', verifySameMnt_ok hr⟩

/-- bounded `EAGAIN` retry (two conjuncts of `C02_kernel_confined`): at most 16 `openat2` calls, never `EAGAIN` -/
theorem C10_eagain_bounded (env : Env) (root : Fd) (path : Bytes) (rflags : Nat) (nofollow : Bool)
    {h h' : Hist} {r : Except Err Fd}
    (hr : Runs (Openat2.resolve env root path rflags nofollow) h h' r) :
    (∃ t, h' = h ++ t ∧ ((∀ x ∈ t, x.2.sane) → countO2 t ≤ 16)) ∧ r ≠ .error (.os EAGAIN) :=
  ⟨(C02_kernel_confined env root path rflags nofollow hr).1, (C02_kernel_confined env root path rflags nofollow hr).2.2⟩

/-- with no tries left the retry loop is `SafetyViolation`: the base case of unfolding it against sixteen answers
`EAGAIN` in a row -/
theorem C10_eagain_exhausted (root : Fd) (path : Bytes) (fl rs : Nat) :
    Openat2.resolveLoop root path fl rs 0 = throw .safetyViolation := rfl

theorem linkat_ok_inv {od : Fd} {on : Bytes} {nd : Fd} {nn : Bytes} {f : Nat} {h h' : Hist}
    (hr : Runs (Sys.linkat od on nd nn f) h h' (.ok ())) :
    h' = h ++ [(Call.linkat od on nd nn f, Resp.unit)] :=
  hotfix_unit_ok_inv (hotfix_ok hr)

theorem renameat2_ok_inv {od : Fd} {on : Bytes} {nd : Fd} {nn : Bytes} {f : Nat} {h h' : Hist}
    (hr : Runs (Sys.renameat2 od on nd nn f) h h' (.ok ())) :
    ∃ c, isMutating c = true ∧ h' = h ++ [(c, Resp.unit)] := by
  unfold Sys.renameat2 at hr
  obtain ⟨_, hr⟩ | ⟨_, hr⟩ := ite_inv hr
  · exact ⟨_, rfl, hotfix_unit_ok_inv (hotfix_ok hr)⟩
  · exact ⟨_, rfl, hotfix_unit_ok_inv (hotfix_ok hr)⟩

/-- **no false success**: when the single `*at` call of `create` reports success for a
non-hardlink inode type, exactly one mutating call was made and the kernel answered it with success -/
theorem createCall_ok_did_work (env : Env) (root : Root) (dir : Fd) (name : Bytes) (ty : InodeType)
    (hty : ∀ t, ty ≠ .hardlink t) {h h' : Hist}
    (hr : Runs (Root.createCall env root dir name ty) h h' (.ok ())) :
    ∃ c, isMutating c = true ∧ h' = h ++ [(c, Resp.unit)] := by
  cases ty with
  | hardlink t => exact absurd rfl (hty t)
  | _ => exact ⟨_, rfl, hotfix_unit_ok_inv hr⟩

/-- non-vacuity: a successful `mkdirat` run exists -/
example : Runs (Sys.mkdirat 5 b!"x" 0o755) [] [(Call.mkdirat 5 b!"x" 0o755, Resp.unit)] (.ok ()) :=
  Runs.of_trace (Sys.mkdirat 5 b!"x" 0o755) (fun _ _ => Resp.unit) []
