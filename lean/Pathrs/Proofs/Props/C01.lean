import Pathrs.Proofs.KOpen

/-!
# C01 — in-root lookups match kernel `RESOLVE_IN_ROOT` semantics for every tree and path

`World` (`Pathrs/Kernel/World.lean`) is an arbitrary immutable directory tree with the kernel's
answers to every system call libpathrs makes on it, and `World.resolveInRoot` is the
specification of `openat2(RESOLVE_IN_ROOT|RESOLVE_NO_MAGICLINKS)`.  The theorems here are
about the *model programs* (`Opath.resolve`, `Openat2.resolve`, `Resolver.resolve`,
`Root.readlink`), the same definitions the replay driver executes against the transcripts of
the real library; they hold for every well-formed world, every path and every flag set, in the
environment `kenv w` (`KRun.lean`): `fs.protected_symlinks = 0`, `openat2` available, and libpathrs'
own procfs handle unmasked and on the kernel resolver.

* `C01_emulated`     the emulated walk returns exactly `resolveInRoot` (object or errno),
* `C01_kernel`       so does the kernel backend,
* `C01_any_backend`  hence `Root::resolve{,_nofollow}` for whichever backend is active,
* `C01_readlink`     `Root::readlink` is the body of that object,
* `C01_open_subpath` `Root::open_subpath` (the one-shot open) on either backend is in-root resolution
                     (no-follow iff `O_NOFOLLOW` is among the flags) followed by `open(2)` of the object
                     found (`World.openKind`): the kernel backend with one `openat2`, the emulated one by
                     resolving, inspecting the handle and re-opening it through `/proc/thread-self/fd/<n>`
                     (`KOpen.run_reopen`: `Handle::reopen` yields the handle's own object);
                     creation flags are refused by both (`C01_open_subpath_creation`),
* `C01_inside_root`  the specification (and so every successful lookup) only returns objects that
                     have a path below the root,
* `C01_loop_eloop`   a self-referencing link ends in `ELOOP` whatever budget was spent already;
                     termination in general is by construction (`Opath.walk` and `kresolve` are
                     total functions with the link budget as termination measure).
-/

open K KRun World KSim KSpec

variable {w : World}

theorem C01_any_backend (hw : w.WF) (r : Resolver) (path : Bytes) (hnul : path.contains 0 = false) (nofollow : Bool) :
    Prog.run w (Resolver.resolve (kenv w) r w.root path nofollow) =
      toOut (resolveInRoot w (if r.emulated then ecfg r.rflags nofollow else kcfgK w r.rflags nofollow) path) := by
  unfold Resolver.resolve
  split
  · exact run_opath_resolve hw path r.rflags nofollow
  · exact run_openat2_resolve hw path hnul r.rflags nofollow

theorem C01_inside_root (hw : w.WF) (c : World.Cfg) (path : Bytes) (r : Fd)
    (h : resolveInRoot w c path = .ok r) : ∃ p, w.dpath r = some p :=
  resolveInRoot_inside hw c path r h

theorem C01_readlink (hw : w.WF) (r : Resolver) (path : Bytes) (hnul : path.contains 0 = false) :
    Prog.run w (Root.readlink (kenv w) { fd := w.root, resolver := r } path) =
      match resolveInRoot w (if r.emulated then ecfg r.rflags true else kcfgK w r.rflags true) path with
      | .ok c => if w.kind c = .lnk then .ok (w.body c) else .error (.os EINVAL)
      | .error e => .error (.os e) := by
  have hr : Prog.run w (Root.resolve (kenv w) { fd := w.root, resolver := r } path true) = _ :=
    C01_any_backend hw r path hnul true
  refine (run_mbind w _ _).trans ?_
  rw [hr]
  cases hs : resolveInRoot w (if r.emulated then ecfg r.rflags true else kcfgK w r.rflags true) path with
  | error e => rfl
  | ok c =>
    obtain ⟨p, hp⟩ := C01_inside_root hw _ _ _ hs
    exact (run_try_then w (Sys.readlinkat c []) (Sys.close c)).trans (run_readlinkat_tree hw c (hw.path_tree _ _ hp))

/-- the emulated backend computes the specification -/
theorem C01_emulated (hw : w.WF) (path : Bytes) (rflags : Nat) (nofollow : Bool) :
    Prog.run w (Opath.resolve (kenv w) w.root path rflags nofollow)
      = toOut (resolveInRoot w (ecfg rflags nofollow) path) :=
  run_opath_resolve hw path rflags nofollow

/-- the kernel backend computes the specification -/
theorem C01_kernel (hw : w.WF) (path : Bytes) (hnul : path.contains 0 = false) (rflags : Nat) (nofollow : Bool) :
    Prog.run w (Openat2.resolve (kenv w) w.root path rflags nofollow)
      = toOut (resolveInRoot w (kcfgK w rflags nofollow) path) :=
  run_openat2_resolve hw path hnul rflags nofollow

/-- a lookup through a self-referencing link ends in `ELOOP` -/
theorem C01_loop_eloop (hw : w.WF) (c : World.Cfg) (d l : Fd) (n : Bytes) (rest : List Bytes)
    (hch : w.child d n = some l) (hl : w.kind l = .lnk)
    (hbody : Path.rawComponents (w.body l) = [n]) (hrel : Path.isAbsolute (w.body l) = false)
    (htr : ¬ (rest = [] ∧ c.nofollow = true)) (links : Nat) :
    kresolve w c d (n :: rest) links = .error ELOOP :=
  kresolve_selfloop hw c d l n rest hch hl hbody hrel htr links

/-- a successful lookup, by either backend, yields an object inside the root -/
theorem C01_success_inside (hw : w.WF) (r : Resolver) (path : Bytes) (hnul : path.contains 0 = false)
    (nofollow : Bool) (fd : Fd)
    (h : Prog.run w (Resolver.resolve (kenv w) r w.root path nofollow) = .ok fd) :
    ∃ p, w.dpath fd = some p :=
  C01_inside_root hw _ path fd (toOut_ok ((C01_any_backend hw r path hnul nofollow).symm.trans h))

/-! non-vacuity: a concrete well-formed world: `/r` with a self-referencing symlink `a` -/
def exWorld : World :=
  { root := 4
    kind := fun d => if d = 4 then .dir else if d = 6 then .lnk else .other
    child := fun d n => if d = 4 ∧ n = b!"a" then some 6 else none
    parent := fun _ => 4
    body := fun _ => b!"a"
    dpath := fun d => if d = 4 then some [] else if d = 6 then some [b!"a"] else none
    rootComps := [b!"r"]
    procMnt := 22
    kernelLinks := 40 }

theorem exWorld_child {d c : Fd} {n : Bytes} : exWorld.child d n = some c ↔ d = 4 ∧ n = b!"a" ∧ c = 6 := by
  show (if d = 4 ∧ n = b!"a" then some (6 : Fd) else none) = some c ↔ _
  split
  · rename_i h; simp [h.1, h.2, eq_comm]
  · rename_i h; simp only [reduceCtorEq, false_iff]; exact fun h' => h ⟨h'.1, h'.2.1⟩

theorem exWorld_dpath {d : Fd} {p : List Bytes} :
    exWorld.dpath d = some p ↔ (d = 4 ∧ p = []) ∨ (d = 6 ∧ p = [b!"a"]) := by
  show (if d = 4 then some [] else if d = 6 then some [b!"a"] else none) = some p ↔ _
  by_cases h4 : d = 4
  · subst h4; simp [eq_comm]
  · by_cases h6 : d = 6
    · subst h6; simp [eq_comm]
    · simp [h4, h6]

theorem exWorld_wf : exWorld.WF := by
  have t4 : isTree 4 := ⟨by decide, by decide⟩
  have t6 : isTree 6 := ⟨by decide, by decide⟩
  have hpa : ProperComp (b!"a") := by unfold ProperComp; decide
  have hpr : ProperComp (b!"r") := by unfold ProperComp; decide
  -- every hypothesis about `child` or `dpath` names one of the two objects
  refine ⟨t4, rfl, rfl, ?_, fun _ _ => t4, ?_, ?_, ?_, ?_, ?_, ?_, ?_, ?_, ?_, ?_⟩
  · intro d n c h
    obtain ⟨_, _, rfl⟩ := exWorld_child.1 h
    exact t6
  · intro d n c h
    obtain ⟨rfl, _, _⟩ := exWorld_child.1 h
    rfl
  · intro d n c p h hp
    obtain ⟨rfl, rfl, rfl⟩ := exWorld_child.1 h
    rcases exWorld_dpath.1 hp with ⟨_, rfl⟩ | ⟨h, _⟩
    · rfl
    · cases h
  · intro d p n hk hp
    rcases exWorld_dpath.1 hp with ⟨_, h⟩ | ⟨rfl, _⟩
    · simp at h
    · cases hk
  · intro a b p ha hb
    rcases exWorld_dpath.1 ha with ⟨rfl, rfl⟩ | ⟨rfl, rfl⟩
    · rcases exWorld_dpath.1 hb with ⟨rfl, _⟩ | ⟨_, h⟩
      · rfl
      · cases h
    · rcases exWorld_dpath.1 hb with ⟨_, h⟩ | ⟨rfl, _⟩
      · cases h
      · rfl
  · intro d n c h
    obtain ⟨_, rfl, _⟩ := exWorld_child.1 h
    exact hpa
  · intro n hn
    cases List.mem_singleton.1 hn
    exact hpr
  · intro d p hp c hc
    rcases exWorld_dpath.1 hp with ⟨_, rfl⟩ | ⟨_, rfl⟩
    · cases hc
    · cases List.mem_singleton.1 hc
      exact hpa
  · intro d p hp
    rcases exWorld_dpath.1 hp with ⟨_, rfl⟩ | ⟨_, rfl⟩ <;> decide
  · intro d p hp
    rcases exWorld_dpath.1 hp with ⟨rfl, _⟩ | ⟨rfl, _⟩
    · exact t4
    · exact t6
  · intro l _
    show b!"a" ≠ [] ∧ ¬ (b!"a").contains 0 ∧ (b!"a").length < READLINK_BUF
    decide

/-- on it a no-follow lookup of `a` ends at the link itself, object 6, whatever the rest of the configuration -/
theorem exWorld_resolve_a (c : World.Cfg) (h : c.nofollow = true) : resolveInRoot exWorld c b!"a" = .ok 6 := by
  rw [resolveInRoot_eq (by decide)]
  show exWorld.kresolve c 4 [b!"a"] 0 = _
  rw [k_name (by rfl) (by decide) (by decide)]
  have hch : exWorld.child 4 b!"a" = some 6 := rfl
  have hl : exWorld.kind 6 = .lnk := rfl
  simp only [hch, hl, h, and_self, ↓reduceIte]

/-- on it, the emulated backend resolves `a/x` to `ELOOP` -/
example : Prog.run exWorld (Opath.resolve (kenv exWorld) exWorld.root b!"a/x" 0 false) = .error (.os ELOOP) := by
  rw [run_opath_resolve exWorld_wf]
  have : Path.rawComponents b!"a/x" = [b!"a", b!"x"] := by decide
  rw [resolveInRoot_eq (by decide), this]
  show toOut (exWorld.kresolve (ecfg 0 false) 4 [b!"a", b!"x"] 0) = _
  rw [kresolve_selfloop exWorld_wf _ 4 6 b!"a" [b!"x"] rfl rfl (by decide) (by decide) (by simp)]
  rfl

/-! ### the one-shot open -/

open KOpen in
/-- **`Root::open_subpath`**: for every well-formed tree, NUL-free path and flag set without creation bits, whichever
backend is active, the result is the object in-root resolution finds (following a trailing symlink unless
`O_NOFOLLOW` is given), provided `open(2)` accepts the flags for an object of that kind — or the errno. -/
theorem C01_open_subpath {w : World} (hw : w.WF) (r : Resolver) (path : Bytes) (hnul : path.contains 0 = false) (flags : Nat)
    (hcf : (hasAny flags (O_CREAT ||| O_EXCL) || hasAll flags O_TMPFILE) = false) :
    Prog.run w (Resolver.openOnce (kenv w) r w.root path flags) =
      openSpec w (if r.emulated then ecfg r.rflags (hasAll flags O_NOFOLLOW) else kcfgK w r.rflags (hasAll flags O_NOFOLLOW))
        path flags := by
  obtain ⟨emu, rflags⟩ := r
  cases emu
  · exact run_openOnce_kernel hw path hnul rflags flags hcf
  · exact run_openOnce_emulated hw path rflags flags hcf

theorem C01_open_subpath_creation {w : World} (r : Resolver) (path : Bytes) (flags : Nat)
    (hcf : (hasAny flags (O_CREAT ||| O_EXCL) || hasAll flags O_TMPFILE) = true) :
    Prog.run w (Resolver.openOnce (kenv w) r w.root path flags) = .error .invalidArgument := by
  unfold Resolver.openOnce
  simp only [hcf, ↓reduceIte, run_do_throw]

open KOpen in
/-- a successful one-shot open returns an object inside the root's tree -/
theorem C01_open_subpath_inside {w : World} (hw : w.WF) (r : Resolver) (path : Bytes) (hnul : path.contains 0 = false)
    (flags : Nat) (hcf : (hasAny flags (O_CREAT ||| O_EXCL) || hasAll flags O_TMPFILE) = false) (o : Fd)
    (h : Prog.run w (Resolver.openOnce (kenv w) r w.root path flags) = .ok o) : ∃ p, w.dpath o = some p := by
  rw [C01_open_subpath hw r path hnul flags hcf] at h
  unfold openSpec at h
  split at h
  · rename_i c hc
    split at h
    · cases h; exact C01_inside_root hw _ path _ hc
    · cases h
  · cases h

