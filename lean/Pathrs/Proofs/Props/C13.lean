import Pathrs.Proofs.RmAll
import Pathrs.Proofs.RmAllAlone

/-!
# C13 — `remove_all` removes exactly the named subtree and never follows links

* `C03_remove_all_targets` (Props/C03.lean, re-used here): for every environment — every
  directory listing, every racing caller or attacker — each `unlinkat` and each directory
  open of `remove_all` names one slash-free component that is neither `.` nor `..`, relative
  to the directory it was given or to one it opened itself with `O_DIRECTORY|O_NOFOLLOW`;
  no other mutating call is made.  So it works only downwards from (parent, name) and a
  symlink is only ever unlinked, never traversed.
* `C13_dot_refused`: the names `.` and `..` are refused before any call.
* `C13_success_witness`: for every environment, `remove_all` reports success only after the
  kernel itself said the named entry is gone: an `unlinkat(parent, name)` answered with success
  or `ENOENT`, or the directory open of (parent, name) answered `ENOENT`.  In particular each
  of several racing callers that reports success has seen the entry absent.  (Proved the other way round:
  relying on no such answer, `remove_all` does not succeed.)
* `C03_trailing_slash_remove_all` / `C14`'s `resolveParent_ok_inv`: the parent is the in-root
  resolution of the rest of the path.

* `C13_exact` / `C13_exact_gone` / `C13_absent` (refinement against a mutable tree): run against `RFS` (`Proofs/RmAll.lean`) — a
  mutable directory tree with the kernel's answers to `unlinkat`, `rmdir`, the `O_DIRECTORY|O_NOFOLLOW` open and
  directory streams (`dirOpen` snapshots the names, `dirNext` delivers them), state threaded by `exec` — the model
  of `remove_all` **succeeds**, the named entry is gone, every directory below it is empty, the parent lost exactly
  that entry, no other directory changed and no kind changed, for every finite tree (`WF`: a rank decreasing along
  entries, distinct proper names, one parent per object) and any fuel above `rank dir + 3` (the model's constant is
  100 000); an entry that does not exist is success with nothing changed.  `C13_exact` is `C13_converges` for the
  history with an idle environment (`Proofs/RmAllAlone.lean`): alone, what the program does not remove itself stays,
  and an entry that is gone was a file or an empty directory.

* `C13_converges` (rely/guarantee, `Proofs/RmAllRace.lean`): the same tree, with *the environment moving
  before every system call of the program*: it may remove entries anywhere (`Removes` — what any number of other
  `remove_all` callers or an `rm -rf` do; directory streams deliver names that may be gone by then), never add one.
  For every such history: the call **succeeds**, the named entry is absent afterwards, the whole history only removed
  entries (the guarantee: so N callers compose), and everything the call itself removed is the named entry or lies
  below it in the initial tree.  So racing `remove_all` callers all report success and leave the path absent.

The frame condition on the real filesystem (and a real kernel's directory streams) are decided by the effect
oracle and the racing-threads suite of the check.
-/

open K

theorem C13_dot_refused (fuel : Nat) (dir : Fd) (name : Bytes) (h : name = Path.dot ∨ name = Path.dotdot) :
    RemoveAll.removeAll (fuel + 1) dir name = throw .invalidArgument := by
  unfold RemoveAll.removeAll
  have hs : Path.containsSlash name = false := by rcases h with rfl | rfl <;> decide
  simp [hs, h]

/-- the kernel said (parent, name) is gone -/
def AbsenceWitness (dir : Fd) (name : Bytes) (x : Call × Resp) : Prop :=
  (∃ fl, x = (Call.unlinkat dir name fl, Resp.unit)) ∨
  (∃ fl, x = (Call.unlinkat dir name fl, Resp.err ENOENT)) ∨
  (∃ fl m, x = (Call.openat dir name fl m, Resp.err ENOENT))

def Witnessed (dir : Fd) (name : Bytes) (h h' : Hist) : Prop :=
  ∃ pre x post, h' = pre ++ x :: post ∧ h <+: pre ∧ AbsenceWitness dir name x

/-! Success only on the kernel's word, read the other way round: under the rely that no answer says the entry is
gone, `remove_all` does not report success (`Sat`, all answers within the rely).  The first and the last attempt
end with the error of their `unlinkat`s, which is not `ENOENT`; the directory open in between does not fail with
`ENOENT`; everything else may be answered at will. -/

/-- the rely "the kernel never says that (dir, name) is gone" -/
def NoWitness (dir : Fd) (name : Bytes) : Call → Resp → Prop := fun c r => ¬ AbsenceWitness dir name (c, r)

variable {dir : Fd} {name : Bytes}

theorem unlinkat_noWitness (fl : Nat) :
    SatE (NoWitness dir name) Top (Sys.unlinkat dir name fl) (fun _ => False) (· ≠ .os ENOENT) := by
  refine Sys.hotfix_satE (by decide) fun _ => (SatE.bind (V' := NoWitness dir name (.unlinkat dir name fl)) (E' := fun _ => False)
    (Sat.mcall trivial fun r hr => hr) (fun _ h => h.elim) fun r hr => ?_)
  cases r with
  | unit => exact (hr (.inl ⟨fl, rfl⟩)).elim
  | err e =>
    exact Sat.mono (Sys.failWith_satE Pass.top [dir] e) (Out.mono (fun _ h => h) fun e' he h =>
      hr (.inr (.inl ⟨fl, by rw [he] at h; cases h; rfl⟩)))
  | _ => exact SatE.throw (by decide)

theorem removeInode_noWitness :
    SatE (NoWitness dir name) Top (RemoveAll.removeInode dir name) (fun _ => False) (· ≠ .os ENOENT) :=
  SatE.bind (unlinkat_noWitness 0).try' (fun _ h => h.1) fun r1 h1 => by
    cases r1 with
    | ok _ => exact h1.elim
    | error e1 =>
      exact (unlinkat_noWitness AT_REMOVEDIR).try'.bind (fun _ h => h.1) fun r2 h2 => by
        cases r2 with
        | ok _ => exact h2.elim
        | error e2 => exact Sat.ite (fun _ => SatE.throw h1.1) fun _ => SatE.throw h2.1

theorem ignoreEnoent_noWitness :
    SatE (NoWitness dir name) Top (RemoveAll.ignoreEnoent (RemoveAll.removeInode dir name)) (fun _ => False) Top :=
  SatE.bind removeInode_noWitness.try' (fun _ _ => trivial) fun r h => by
    cases r with
    | ok _ => exact h.elim
    | error e =>
      cases e with
      | os k => exact Sat.ite (fun hk => (h.1 (hk ▸ rfl)).elim) fun _ => SatE.throw trivial
      | _ => exact SatE.throw trivial

theorem openat_noWitness (fl m : Nat) :
    SatE (NoWitness dir name) Top (Sys.openat dir name fl m) Top (· ≠ .os ENOENT) := by
  refine Sys.hotfix_satE (by decide) fun _ => (SatE.bind (E' := fun _ => False)
    (V' := NoWitness dir name (.openat dir name (fl ||| O_NOFOLLOW ||| O_CLOEXEC ||| O_NOCTTY) m))
    (Sat.mcall trivial fun r hr => hr) (fun _ h => h.elim) fun r hr => ?_)
  cases r with
  | fd n => exact SatE.pure trivial
  | err e =>
    exact Sat.mono (Sys.failWith_satE Pass.top [dir] e) (Out.mono (fun _ h => h) fun e' he h =>
      hr (.inr (.inr ⟨_, _, by rw [he] at h; cases h; rfl⟩)))
  | _ => exact SatE.throw (by decide)

theorem openSubdir_noWitness : SatM (NoWitness dir name) Top (RemoveAll.openSubdir dir name) (· ≠ none) :=
  SatE.bind (openat_noWitness O_DIRECTORY 0).try' (fun _ _ => trivial) fun r h => by
    cases r with
    | ok fd => exact SatE.pure (fun h => nomatch h)
    | error e =>
      cases e with
      | os k => exact Sat.ite (fun hk => (h.1 (hk ▸ rfl)).elim) fun _ => SatE.throw trivial
      | _ => exact SatE.throw trivial

theorem removeAll_noWitness (fuel : Nat) :
    Sat (NoWitness dir name) Top (RemoveAll.removeAll fuel dir name) (· ≠ .ok ()) := by
  cases fuel with
  | zero => exact Sat.ret (fun h => nomatch h)
  | succ n =>
    unfold RemoveAll.removeAll
    refine Sat.ite (fun _ => Sat.ret fun h => nomatch h) fun _ => Sat.ite (fun _ => Sat.ret fun h => nomatch h) fun _ => ?_
    refine Sat.mbind (Q' := Out (· = false) Top) ?_ (fun removed hr => ?_) fun _ _ h => nomatch h
    · exact SatE.bind ignoreEnoent_noWitness.try' (fun _ _ => trivial) fun r h => by
        cases r with
        | ok _ => exact h.elim
        | error _ => exact SatE.pure rfl
    · subst hr
      refine Sat.mbind (Q' := Out (· ≠ none) Top) openSubdir_noWitness (fun sub hs => ?_) fun _ _ h => nomatch h
      cases sub with
      | none => exact (hs rfl).elim
      | some subdir =>
        unfold RemoveAll.emptyDir
        refine Sat.mbind (Q' := Top) (Sat.onErr (Sat.top _) (Sat.top _)) (fun _ _ => ?_) fun _ _ h => nomatch h
        refine Sat.mbind (Q' := Out (Out (fun _ => False) Top) Top)
          (Sat.mono ignoreEnoent_noWitness.try' (Out.mono (Out.mono (fun _ h => h) fun _ _ => trivial) fun _ _ => trivial))
          (fun r hr => ?_) fun _ _ h => nomatch h
        cases r with
        | ok _ => exact hr.elim
        | error e =>
          exact Sat.mbind (Q' := Top) (Sat.lift (Sat.top _)) (fun _ _ => Sat.ofExcept fun h => nomatch h)
            fun _ _ h => nomatch h

theorem witnessed_of_mem {h t : Hist} {x : Call × Resp} (hx : x ∈ t) (hw : AbsenceWitness dir name x) :
    Witnessed dir name h (h ++ t) := by
  obtain ⟨pre, post, rfl⟩ := List.append_of_mem hx
  exact ⟨h ++ pre, x, post, (List.append_assoc ..).symm, List.prefix_append _ _, hw⟩

/-- **success is only reported on the kernel's word that the entry is gone** -/
theorem C13_success_witness (fuel : Nat) (dir : Fd) (name : Bytes) {h h' : Hist}
    (hr : Runs (RemoveAll.removeAll fuel dir name) h h' (.ok ())) : Witnessed dir name h h' := by
  obtain ⟨t, rfl, ht⟩ := (removeAll_noWitness fuel).runs hr
  exact Classical.byContradiction fun hno => (ht fun x hx hw => hno (witnessed_of_mem hx hw)).2 rfl

/-! ### exactly the named subtree (sequential refinement against a mutable tree) -/

open RmAll in
/-- **`remove_all` removes exactly the named subtree** -/
theorem C13_exact (s : RFS) (rank : Fd → Nat) (hw : WF s rank) (dir : Fd) (hdir : 0 ≤ dir) (name : Bytes) (c : Fd)
    (hc : s.child dir name = some c) (fuel : Nat) (hfuel : rank dir + 3 ≤ fuel) :
    ∃ s', exec s (RemoveAll.removeAll fuel dir name) = (s', .ok ()) ∧
      s'.entries dir = (s.entries dir).filter (fun e => e.1 ≠ name) ∧
      (∀ d, Below s c d → s'.entries d = []) ∧
      (∀ d, ¬ Below s c d → d ≠ dir → s'.entries d = s.entries d) ∧
      s'.isDir = s.isDir :=
  removeAll_exact s rank hw dir hdir name c hc fuel hfuel

open RmAll in
/-- the entry is gone afterwards -/
theorem C13_exact_gone (s : RFS) (rank : Fd → Nat) (hw : WF s rank) (dir : Fd) (hdir : 0 ≤ dir) (name : Bytes) (c : Fd)
    (hc : s.child dir name = some c) (fuel : Nat) (hfuel : rank dir + 3 ≤ fuel) :
    ∃ s', exec s (RemoveAll.removeAll fuel dir name) = (s', .ok ()) ∧ s'.child dir name = none := by
  obtain ⟨s', h1, hp, _⟩ := removeAll_exact s rank hw dir hdir name c hc fuel hfuel
  exact ⟨s', h1, (congrArg (List.lookup name) hp).trans (lookup_filter_ne _ name)⟩

open RmAll in
/-- an entry that does not exist (somebody else removed it): success, nothing changed -/
theorem C13_absent (s : RFS) (dir : Fd) (hdir : 0 ≤ dir) (name : Bytes) (hname : RmAll.ProperName name)
    (hc : s.child dir name = none) (fuel : Nat) :
    ∃ s', exec s (RemoveAll.removeAll (fuel + 1) dir name) = (s', .ok ()) ∧ s'.entries = s.entries ∧ s'.isDir = s.isDir := by
  refine ⟨s, (exec_eq s _).trans ?_, rfl, rfl⟩
  rw [removeAll_succ hname, Prog.runState_mbind_ok _
    (Prog.runState_isOk_ok (run_ignoreEnoent_enoent (run_removeInode_absent hdir hc)))]
  rfl

/-! ### convergence while others remove (rely/guarantee) -/

open RmAll RmAllRace in
/-- **Racing removers converge** -/
theorem C13_converges (s s' : RFS) (rank : Fd → Nat) (hw : WF s rank) (dir : Fd) (hdir : 0 ≤ dir) (name : Bytes)
    (hname : RmAll.ProperName name) (fuel : Nat) (hfuel : rank dir + 3 ≤ fuel) (t : Hist) (r : Except Err Unit)
    (hr : RunsT (RemoveAll.removeAll fuel dir name) t r) (hv : ValidR s t s') :
    r = .ok () ∧ s'.child dir name = none ∧ OnlyRemoved s s' ∧
      ∀ d n, (d, n) ∈ ownRemovals t →
        (d = dir ∧ n = name) ∨ (∃ c, s.child dir name = some c ∧ Below s c d) :=
  removeAll_converges s s' rank hw dir hdir name hname fuel hfuel t r hr hv

