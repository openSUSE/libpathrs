import Pathrs.Capi
import Pathrs.Proofs.Bits

/-!
# C17 — the C boundary validates arguments and respects caller buffers

Argument validation: a negative descriptor, a NULL path, an unknown procfs base, an invalid `mknod` mode make the
entry point an error leaf before any call (program equalities).  Buffers: `copy_path_into_buffer` in closed form.
-/

open K Capi

/-! ## Buffer copies

`copy_eq` is the copy in closed form; the laws of the buffer contract are facts about `List.take`/`List.drop` on it. -/

/-- also for `bufsize = 0`, where the code leaves the buffer alone: the `min` is then 0 -/
theorem copy_eq (path buf : Bytes) (bufsize : Nat) :
    copyPathIntoBuffer path (some buf) bufsize =
      (path.length, some (path.take (min path.length bufsize) ++ buf.drop (min path.length bufsize))) := by
  simp only [copyPathIntoBuffer]
  split
  · rfl
  · rename_i h
    rw [Nat.eq_zero_of_not_pos h, Nat.min_zero]
    rfl

/-- `copy_path_into_buffer` returns the full length, never changes the size of
the caller's buffer (so nothing is written beyond it), writes exactly the first
`min(len, bufsize)` bytes of the path and leaves the rest untouched. -/
theorem C17_copy_bounds (path buf : Bytes) :
    let r := copyPathIntoBuffer path (some buf) buf.length
    r.1 = path.length ∧
    ∃ out, r.2 = some out ∧ out.length = buf.length ∧
      out.take (min path.length buf.length) = path.take (min path.length buf.length) ∧
      out.drop (min path.length buf.length) = buf.drop (min path.length buf.length) := by
  have hl : (path.take (min path.length buf.length)).length = min path.length buf.length := by
    rw [List.length_take, Nat.min_eq_left (Nat.min_le_left ..)]
  simp only [copy_eq]
  refine ⟨trivial, _, rfl, ?_, List.take_left' hl, List.drop_left' hl⟩
  rw [List.length_append, hl, List.length_drop, Nat.add_sub_of_le (Nat.min_le_right ..)]

/-- the caller's retry protocol works: a buffer of exactly the length returned
by a first call (whatever that call's buffer was) receives the whole link body -/
theorem C17_copy_retry_complete (path buf : Bytes) (h : buf.length = path.length) :
    copyPathIntoBuffer path (some buf) buf.length = (path.length, some path) := by
  rw [copy_eq, h, Nat.min_self, List.take_length, ← h, List.drop_length, List.append_nil]

/-- truncation is visible in the return value: the caller's buffer holds the
whole link body exactly when the returned length fits in it -/
theorem C17_copy_truncated_iff (path buf : Bytes) :
    let r := copyPathIntoBuffer path (some buf) buf.length
    (∃ out, r.2 = some out ∧ out.take path.length = path) ↔ r.1 ≤ buf.length := by
  obtain ⟨h1, out, h2, h3, h4, _⟩ := C17_copy_bounds path buf
  simp only at h1 h2 h4 ⊢
  rw [h1, h2]
  constructor
  · rintro ⟨_, ⟨rfl⟩, ht⟩
    have := congrArg List.length ht
    rw [List.length_take, h3] at this
    exact this ▸ Nat.min_le_right ..
  · intro hle
    rw [Nat.min_eq_left hle] at h4
    exact ⟨out, rfl, by rw [h4, List.take_length]⟩

/-- a larger buffer never changes what a smaller one received: the bytes
written into a buffer of size `n` are a prefix of those written into any
buffer of size `m ≥ n` -/
theorem C17_copy_prefix_monotone (path b1 b2 : Bytes) (hle : b1.length ≤ b2.length) :
    ∃ o1 o2, (copyPathIntoBuffer path (some b1) b1.length).2 = some o1 ∧
      (copyPathIntoBuffer path (some b2) b2.length).2 = some o2 ∧
      o1.take (min path.length b1.length) = o2.take (min path.length b1.length) := by
  obtain ⟨_, o1, e1, _, t1, _⟩ := C17_copy_bounds path b1
  obtain ⟨_, o2, e2, _, t2, _⟩ := C17_copy_bounds path b2
  refine ⟨o1, o2, e1, e2, ?_⟩
  have : min path.length b1.length ≤ min path.length b2.length :=
    Nat.le_min.mpr ⟨Nat.min_le_left .., Nat.le_trans (Nat.min_le_right ..) hle⟩
  have h := congrArg (List.take (min path.length b1.length)) t2
  rw [List.take_take, List.take_take, Nat.min_eq_left this] at h
  rw [t1, h]

/-- a NULL buffer is allowed: nothing is written, the length is still returned -/
theorem C17_copy_null (path : Bytes) (bufsize : Nat) :
    copyPathIntoBuffer path none bufsize = (path.length, none) := rfl

/-! ## Argument validation: an error and no system call at all

Every entry point begins with its validations, each an `Except` value lifted into the program.  A
validation that fails *is* the program (`bind_liftM_error`: a bare error leaf, so no call is made);
one that succeeds hands its value on (`bind_liftM_ok`). -/

theorem bind_liftM_error {α β : Type} {x : Except Err α} {e : Err} (h : x = .error e) (k : α → M β) :
    (liftM x : M α) >>= k = Prog.ret (.error e) := by
  subst h; rfl

theorem bind_liftM_ok {α β : Type} {x : Except Err α} {a : α} (h : x = .ok a) (k : α → M β) :
    (liftM x : M α) >>= k = k a := by
  subst h; rfl

theorem borrowFd_neg {fd : Int} (h : fd < 0) : borrowFd fd = .error .invalidArgument := if_pos h

theorem borrowFd_nonneg {fd : Int} (h : 0 ≤ fd) : borrowFd fd = .ok fd := if_neg (Int.not_lt.mpr h)

theorem procBase_unknown {v : Nat}
    (h : v ≠ PATHRS_PROC_ROOT ∧ v ≠ PATHRS_PROC_SELF ∧ v ≠ PATHRS_PROC_THREAD_SELF) :
    procBase v = .error .invalidArgument := by
  rw [procBase, if_neg h.1, if_neg h.2.1, if_neg h.2.2]

/-- a negative descriptor is refused by every `pathrs_inroot_*` function before
anything else happens (the program is a bare error leaf: it makes no call) -/
theorem C17_negative_fd_rejected {α : Type} (env : Env) (emu : Bool) (fd : Int) (path : Option Bytes)
    (body : Root → Bytes → M α) (h : fd < 0) :
    inroot env emu fd path body = Prog.ret (.error .invalidArgument) :=
  bind_liftM_error (borrowFd_neg h) _

theorem C17_negative_fd_rejected2 {α : Type} (env : Env) (emu : Bool) (fd : Int) (p1 p2 : Option Bytes)
    (body : Root → Bytes → Bytes → M α) (h : fd < 0) :
    inroot2 env emu fd p1 p2 body = Prog.ret (.error .invalidArgument) :=
  bind_liftM_error (borrowFd_neg h) _

theorem C17_reopen_negative_fd (env : Env) (fd : Int) (flags : Nat) (h : fd < 0) :
    Capi.reopen env fd flags = Prog.ret (.error .invalidArgument) :=
  bind_liftM_error (borrowFd_neg h) _

/-- a NULL path is refused before any system call -/
theorem C17_null_path_rejected {α : Type} (env : Env) (emu : Bool) (fd : Int)
    (body : Root → Bytes → M α) (h : 0 ≤ fd) :
    inroot env emu fd none body = Prog.ret (.error .invalidArgument) :=
  (bind_liftM_ok (borrowFd_nonneg h) _).trans (bind_liftM_error rfl _)

theorem C17_open_root_null : Capi.openRoot none = Prog.ret (.error .invalidArgument) :=
  bind_liftM_error rfl _

/-- an unknown procfs base is refused before any system call -/
theorem C17_unknown_base_rejected (env : Env) (base : Nat) (path : Option Bytes) (flags : Nat)
    (h : base ≠ PATHRS_PROC_ROOT ∧ base ≠ PATHRS_PROC_SELF ∧ base ≠ PATHRS_PROC_THREAD_SELF) :
    Capi.procOpen env base path flags = Prog.ret (.error .invalidArgument) :=
  bind_liftM_error (procBase_unknown h) _

theorem C17_unknown_base_rejected_readlink (env : Env) (base : Nat) (path buf : Option Bytes) (n : Nat)
    (h : base ≠ PATHRS_PROC_ROOT ∧ base ≠ PATHRS_PROC_SELF ∧ base ≠ PATHRS_PROC_THREAD_SELF) :
    Capi.procReadlink env base path buf n = Prog.ret (.error .invalidArgument) :=
  bind_liftM_error (procBase_unknown h) _

/-- exactly the three published constants are accepted -/
theorem C17_base_decoding (v : Nat) :
    (∃ b, procBase v = .ok b) ↔ (v = PATHRS_PROC_ROOT ∨ v = PATHRS_PROC_SELF ∨ v = PATHRS_PROC_THREAD_SELF) := by
  constructor
  · intro ⟨b, hb⟩
    refine Decidable.byContradiction fun hn => ?_
    rw [procBase_unknown (by simpa only [not_or] using hn)] at hb
    cases hb
  · rintro (rfl | rfl | rfl) <;> exact ⟨_, rfl⟩

/-- `mknod`: a file-type field outside {REG, DIR, BLK, CHR, FIFO, SOCK} is an invalid argument,
sockets are "not implemented"; neither reaches the kernel -/
theorem C17_invalid_mode_rejected (mode dev : Nat)
    (h : ∀ t ∈ [S_IFREG, S_IFDIR, S_IFBLK, S_IFCHR, S_IFIFO, S_IFSOCK], mode &&& S_IFMT ≠ t) :
    mknodType mode dev = .error .invalidArgument := by
  simp only [List.mem_cons, List.mem_nil_iff, or_false, forall_eq_or_imp, forall_eq] at h
  obtain ⟨h1, h2, h3, h4, h5, h6⟩ := h
  simp only [mknodType, h1, h2, h3, h4, h5, h6, if_false]

theorem C17_socket_not_implemented (mode dev : Nat) (h : mode &&& S_IFMT = S_IFSOCK) :
    mknodType mode dev = .error .notImplemented := by
  simp [mknodType, h, S_IFSOCK, S_IFREG, S_IFDIR, S_IFBLK, S_IFCHR, S_IFIFO]

theorem C17_mknod_invalid_mode_no_call (env : Env) (emu : Bool) (fd : Int) (path : Bytes) (mode dev : Nat)
    (hfd : 0 ≤ fd) (e : Err) (h : mknodType mode dev = .error e) :
    Capi.mknod env emu fd (some path) mode dev = Prog.ret (.error e) :=
  (bind_liftM_ok (borrowFd_nonneg hfd) _).trans (bind_liftM_error h _)

/-- the permission bits handed on are the mode with the type field cleared:
`mode ^ (mode & S_IFMT) = mode & ~S_IFMT` -/
theorem C17_mknod_perm_bits (mode : Nat) : mode ^^^ (mode &&& S_IFMT) = clearBits mode S_IFMT := by
  unfold clearBits
  apply Nat.eq_of_testBit_eq
  intro i
  simp [Nat.testBit_xor, Nat.testBit_and]
  cases mode.testBit i <;> cases S_IFMT.testBit i <;> rfl

/-- the type field is gone from what is handed on: `(mode ^ (mode & S_IFMT)) & S_IFMT = 0`,
so the permission argument can never smuggle a second file type to the kernel -/
theorem C17_mknod_perms_no_type (mode : Nat) : (mode ^^^ (mode &&& S_IFMT)) &&& S_IFMT = 0 :=
  C17_mknod_perm_bits mode ▸ clearBits_and_self mode S_IFMT

/-- the decoding is exhaustive and exact: `mknodType` succeeds precisely for the five
creatable types, and then with that type, the stripped permission bits and the
caller's device number -/
theorem C17_mknod_decoding (mode dev : Nat) :
    mknodType mode dev =
      let perms := mode ^^^ (mode &&& S_IFMT)
      if mode &&& S_IFMT = S_IFREG then .ok (.file perms)
      else if mode &&& S_IFMT = S_IFDIR then .ok (.directory perms)
      else if mode &&& S_IFMT = S_IFBLK then .ok (.blockDev perms dev)
      else if mode &&& S_IFMT = S_IFCHR then .ok (.charDev perms dev)
      else if mode &&& S_IFMT = S_IFIFO then .ok (.fifo perms)
      else if mode &&& S_IFMT = S_IFSOCK then .error .notImplemented
      else .error .invalidArgument := rfl

/-- success happens only for those five values of the type field -/
theorem C17_mknod_ok_only (mode dev : Nat) (ty : InodeType) (h : mknodType mode dev = .ok ty) :
    mode &&& S_IFMT ∈ [S_IFREG, S_IFDIR, S_IFBLK, S_IFCHR, S_IFIFO] := by
  refine Decidable.byContradiction fun hn => ?_
  simp only [List.mem_cons, List.mem_nil_iff, or_false, not_or] at hn
  obtain ⟨h1, h2, h3, h4, h5⟩ := hn
  simp only [mknodType, h1, h2, h3, h4, h5, if_false] at h
  split at h <;> cases h

/-! ## Non-vacuity -/

example : (copyPathIntoBuffer b!"abcdef" (some [1, 2, 3, 4]) 4) = (6, some b!"abcd") := by decide
example : (copyPathIntoBuffer b!"ab" (some [1, 2, 3, 4]) 4) = (2, some [97, 98, 3, 4]) := by decide
example : mknodType (S_IFLNK ||| 0o777) 0 = .error .invalidArgument :=
  C17_invalid_mode_rejected _ _ (by decide)
example : (copyPathIntoBuffer b!"abcd" (some [1, 2, 3, 4]) 4) = (4, some b!"abcd") :=
  C17_copy_retry_complete _ _ rfl
example : ∃ b, procBase PATHRS_PROC_SELF = .ok b := ⟨_, rfl⟩
