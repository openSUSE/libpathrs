import Pathrs.Proofs.C02Runs

/-!
# C02 — lookups never escape the root under any concurrent attacker schedule

Two layers (the lemmas are in `Proofs/C02Runs.lean` and `Proofs/Attack.lean`; the second layer's theorems are
`C02_under_attack`, `C02_readlink_under_attack`, `C02_open_subpath_under_attack` in `Props/C02_Attack.lean` and
`C02_kernel_under_attack` in `Props/C02_Kernel.lean`):

* for **every environment** (`Runs`: every sequence of kernel answers, hence every interleaving of attacker mutations
  with the library's system calls): a successful emulated lookup ends with a passed `check_current` on the very
  descriptor it returns; the kernel backend returns only the kernel's own confined answer, with bounded retries;
* against an **attacker that rearranges the tree between any two system calls** (`Attack.runSeq`: the `i`-th call is
  answered by the world of moment `i`, and the trees of different moments are unrelated): a descriptor the emulated
  lookup returns refers to an object that the kernel's `d_path` placed below the root at some moment during the call.
  The kernel statement this rests on is `World.answer`'s reading of `readlink(/proc/thread-self/fd/N)` (`DPathSound`).
-/

open K Runs Path

/-- **Emulated backend: every successful lookup is a checked descriptor.**  For every environment: if `opath::resolve`
returns `fd`, the last thing that happened before the final bookkeeping closes is a passed `check_current` on `fd` (or
on the walk's root duplicate, followed by the `O_PATH|O_NOFOLLOW` open of `"."` beneath it that produced `fd`). -/
theorem C02_emulated_checked (env : Env) (root : Fd) (path : Bytes) (rflags : Nat) (nofollow : Bool)
    {h h' : Hist} {fd : Fd}
    (hr : Runs (Opath.resolve env root path rflags nofollow) h h' (.ok fd)) :
    ∃ rd, (h ++ [(Call.dup root 3, Resp.fd rd)]) <+: h' ∧ WalkFinal env rd (h ++ [(Call.dup root 3, Resp.fd rd)]) h' fd := by
  unfold Opath.resolve at hr
  obtain ⟨_, ⟨res, stk⟩, h1, hk⟩ := mbind_ok hr
  unfold Opath.doResolve at h1
  obtain ⟨_, rd, hdup, h2⟩ := mbind_ok h1
  obtain rfl := dup_ok_inv hdup
  cases res with
  | part hh rem e => exact (then_throw_ok hk).elim
  | complete c =>
    obtain ⟨rfl, rfl⟩ := pure_ok hk
    obtain ⟨_, h2⟩ | ⟨_, h2⟩ := ite_inv h2
    · cases (pure_ok h2).2
    · exact ⟨rd, h2.isPrefix, walk_complete_checked env _ _ (fun c hc => by cases hc) (rawComponents_single path) h2⟩

/-- **Kernel backend: a result is the kernel's own confined answer.**  If `openat2::resolve` returns `fd`, the last call
of the run is `openat2(root, path, …, RESOLVE_IN_ROOT|RESOLVE_NO_MAGICLINKS|rflags)` answered with `fd`; at most 16
`openat2` calls were made; `EAGAIN` never reaches the caller (with no tries left the loop is `SafetyViolation`:
`C02_eagain_exhausted`). -/
theorem C02_kernel_confined (env : Env) (root : Fd) (path : Bytes) (rflags : Nat) (nofollow : Bool)
    {h h' : Hist} {r : Except Err Fd}
    (hr : Runs (Openat2.resolve env root path rflags nofollow) h h' r) :
    (∃ t, h' = h ++ t ∧ ((∀ x ∈ t, x.2.sane) → countO2 t ≤ 16)) ∧
    (∀ fd, r = .ok fd → ∃ pre fl, h' = pre ++
        [(Call.openat2 root (toCString path) fl 0 (RESOLVE_IN_ROOT ||| RESOLVE_NO_MAGICLINKS ||| rflags) OPEN_HOW_SIZE,
          Resp.fd fd)]) ∧
    r ≠ .error (.os EAGAIN) := by
  unfold Openat2.resolve at hr
  obtain ⟨_, hr⟩ | ⟨_, hr⟩ := ite_inv hr
  · obtain ⟨rfl, rfl⟩ := ret_inv hr
    exact ⟨⟨[], (List.append_nil _).symm, fun _ => Nat.zero_le _⟩, fun _ => nofun, nofun⟩
  · obtain ⟨⟨t, ht, hc⟩, hlast, hne⟩ := resolveLoop_inv _ _ _ _ _ hr
    exact ⟨⟨t, ht, fun _ => hc⟩, fun fd he => (hlast fd he).imp fun pre hp => ⟨_, hp⟩, hne⟩

/-- the limit is real: with no tries left the loop is `SafetyViolation` -/
theorem C02_eagain_exhausted (root : Fd) (path : Bytes) (fl rs : Nat) :
    Openat2.resolveLoop root path fl rs 0 = throw .safetyViolation := rfl
