import Pathrs.Procfs

/-!
# C08 — procfs lookups use bounded resources and report true errors

`ProcfsHandle::open` retries an `ENOENT` obtained on a masked handle once, on a
freshly created unmasked handle, by calling itself on that handle.  The model
(`Procfs.openH`) has the same recursion and therefore takes fuel.  The theorems
show that the fuel is irrelevant: the recursion has depth at most one for every
environment, so a lookup creates at most one additional handle.
(Before the repair of finding F3 this was false: the unmasked handle could
itself be masked and the code recursed for as long as descriptors lasted.)
-/

open K Procfs

theorem retryUnmasked_congr (env : Env) (a1 a2 : ProcH → M Fd) (basedir : Fd) (e : Err)
    (hagree : ∀ h2, h2.isSubset = false → a1 h2 = a2 h2) :
    retryUnmasked env a1 basedir e = retryUnmasked env a2 basedir e := by
  unfold retryUnmasked
  refine congrArg (M.bind' _) (funext fun r => ?_)
  cases r with
  | error e => rfl
  | ok h2 =>
    cases hs : h2.isSubset
    · simp only [hs, Bool.false_eq_true, ↓reduceIte, hagree h2 hs]
    · simp only [hs, ↓reduceIte]

/-- one level consults the recursive call only when its own handle is masked, and then only on
handles that are not -/
theorem openStep_congr (env : Env) (a1 a2 : ProcH → Nat → M Fd) (h : ProcH) (base : Base)
    (subpath : Bytes) (oflags : Nat)
    (hagree : h.isSubset = true → ∀ h2 fl, h2.isSubset = false → a1 h2 fl = a2 h2 fl) :
    openStep env a1 h base subpath oflags = openStep env a2 h base subpath oflags := by
  unfold openStep
  refine congrArg (M.bind' _) (funext fun basedir => congrArg (M.bind' _) (funext fun first => ?_))
  cases first with
  | ok fd => rfl
  | error e =>
    dsimp only
    split
    · rename_i hc
      exact retryUnmasked_congr env _ _ basedir e (fun h2 hs => hagree hc.1 h2 _ hs)
    · rfl

/-- a lookup on a handle that is not masked performs exactly the steps of one level with no
retry branch at all (so it creates no further handle) -/
theorem C08_unmasked_is_one_level (env : Env) (h : ProcH) (base : Base) (subpath : Bytes) (oflags : Nat)
    (hns : h.isSubset = false) (n : Nat) :
    openH env (n + 1) h base subpath oflags
      = openStep env (fun _ _ => throw (.outOfFuel "unreachable")) h base subpath oflags := by
  rw [openH]
  exact openStep_congr env _ _ h base subpath oflags fun hs => absurd (hns ▸ hs) Bool.false_ne_true

/-- a handle that is not masked never retries: its lookup does not depend on the fuel -/
theorem C08_unmasked_never_retries (env : Env) (k : Nat) (h : ProcH) (base : Base) (subpath : Bytes)
    (oflags : Nat) (hns : h.isSubset = false) :
    openH env (k + 1) h base subpath oflags = openH env 1 h base subpath oflags :=
  (C08_unmasked_is_one_level env h base subpath oflags hns k).trans
    (C08_unmasked_is_one_level env h base subpath oflags hns 0).symm

/-- the retry recursion has depth at most one, whatever the environment answers -/
theorem C08_retry_depth_one (env : Env) (n : Nat) (h : ProcH) (base : Base) (subpath : Bytes)
    (oflags : Nat) :
    openH env (n + 2) h base subpath oflags = openH env 2 h base subpath oflags := by
  rw [openH, openH]
  exact openStep_congr env _ _ h base subpath oflags
    fun _ h2 fl hs => C08_unmasked_never_retries env n h2 base subpath fl hs

/-- the standard fuel (64) is as good as 2 -/
theorem C08_standard_fuel (env : Env) (h : ProcH) (base : Base) (subpath : Bytes) (oflags : Nat) :
    openH env retryFuel h base subpath oflags = openH env 2 h base subpath oflags :=
  C08_retry_depth_one env 62 h base subpath oflags

/-! ## The other entry points: `readlink` and `open_follow`

They reach the retry only through `openH`, with the standard fuel.  Written with
an explicit fuel they are the same programs for every fuel from 2 upwards: no
lookup of any kind can use more than one additional handle. -/

/-- `readlinkH` with the fuel of its `openH` made explicit -/
def readlinkFuel (env : Env) (n : Nat) (h : ProcH) (base : Base) (subpath : Bytes) : M Bytes := do
  let link ← openH env n h base subpath O_PATH
  let r ← M.try' (Sys.readlinkat link [])
  (Sys.close link : Prog Unit)
  M.ofExcept r

def openFollowTailFuel (env : Env) (n : Nat) (h : ProcH) (base : Base) (subpath : Bytes) (oflags : Nat) : M Fd := do
  let (parent, trailing) ← (Path.pathSplit subpath : Except Err _)
  match trailing with
  | none => throw .invalidArgument
  | some trailing =>
    let parent ← openH env n h base parent (O_PATH ||| O_DIRECTORY)
    let parentMnt ← (fetchMntId parent []).onErr (Sys.close parent)
    (verifySameMnt parentMnt parent trailing).onErr (Sys.close parent)
    let r ← M.try' (Sys.openatFollow parent trailing oflags 0)
    (Sys.close parent : Prog Unit)
    M.ofExcept r

def openFollowFuel (env : Env) (n : Nat) (h : ProcH) (base : Base) (subpath : Bytes) (oflags : Nat) : M Fd :=
  let oflags := if (Path.stripTrailingSlash subpath).2 then oflags ||| O_DIRECTORY else oflags
  let subpath := (Path.stripTrailingSlash subpath).1
  if hasAny oflags (O_CREAT ||| O_EXCL) || hasAll oflags O_TMPFILE then throw .invalidArgument else do
  match ← M.try' (readlinkFuel env n h base subpath) with
  | .error e =>
    if e = .os EINVAL ∨ e = .os ENOENT then openH env n h base subpath oflags
    else if e = .os ENAMETOOLONG then openFollowTailFuel env n h base subpath oflags
    else throw e
  | .ok _ => openFollowTailFuel env n h base subpath oflags

theorem openH_fuel (env : Env) (n : Nat) :
    openH env (n + 2) = openH env retryFuel := by
  funext h base subpath oflags
  rw [C08_retry_depth_one, C08_standard_fuel]

theorem readlinkFuel_std (env : Env) : readlinkFuel env retryFuel = readlinkH env := rfl
theorem openFollowTailFuel_std (env : Env) : openFollowTailFuel env retryFuel = openFollowTail env := rfl
theorem openFollowFuel_std (env : Env) : openFollowFuel env retryFuel = openFollowH env := rfl

/-- `ProcfsHandle::readlink` uses at most one additional handle: any fuel ≥ 2 gives the same program -/
theorem C08_readlink_depth_one (env : Env) (n : Nat) (h : ProcH) (base : Base) (subpath : Bytes) :
    readlinkFuel env (n + 2) h base subpath = readlinkH env h base subpath := by
  rw [← readlinkFuel_std, readlinkFuel, openH_fuel]
  rfl

/-- `ProcfsHandle::open_follow` likewise — through its probe, its direct lookup and its parent lookup -/
theorem C08_open_follow_depth_one (env : Env) (n : Nat) (h : ProcH) (base : Base) (subpath : Bytes) (oflags : Nat) :
    openFollowFuel env (n + 2) h base subpath oflags = openFollowH env h base subpath oflags := by
  rw [← openFollowFuel_std]
  unfold openFollowFuel readlinkFuel openFollowTailFuel
  rw [openH_fuel]
