import Pathrs.Proofs.Props.C01
import Pathrs.Proofs.KProbe

/-!
# C04 — kernel and emulated resolver backends are observationally equivalent

Both backends compute the specification `World.resolveInRoot` (C01).  They differ in one
parameter only: the kernel gives up after `kernelLinks` (40) followed links, the emulated walk
after `MAX_SYMLINK_TRAVERSALS` (128).  `kresolve_limit_mono` shows that the larger budget changes
nothing unless the smaller one was exhausted, so for every lookup the kernel does not answer
`ELOOP` (in particular every lookup of at most 40 link traversals, the quantifier of the
property) the two backends return the same object or the same errno; with
`RESOLVE_NO_SYMLINKS` they agree unconditionally (`kresolve_nosym`).

Full lookups (`resolve`, `resolve_nofollow`, `readlink`, and the parent lookups of every
single-entry operation) are covered by these theorems.  The *partial* lookups behind
`mkdir_all` are covered by `C04_partial_agree`: the emulated walk with its symlink stack
(`Opath.resolvePartial`, theorem `KSimStack.walk_sim_stack`) and the kernel backend's probing of ever
shorter prefixes (`Openat2.resolvePartial` over `Path.partialAncestors`, `KProbe.anc_probe`)
hand `mkdir_all` the same directory and the same components to create, or the same error.
The one-shot open (`open_subpath`) is covered by `C04_open_agree` (from `C01_open_subpath`): at the
level of which object is opened or which errno is returned.  The *status flags* of the resulting
descriptor (`F_GETFL`) are not represented in `World` and are decided by the transcript tie plus the
pairwise differential oracle of the check.
-/

open K KRun World KSim KSpec

variable {w : World}

/-- the specifications of the two backends agree unless the kernel ran out of link budget -/
theorem C04_spec_agree (rflags : Nat) (nofollow : Bool) (path : Bytes)
    (hlinks : w.kernelLinks ≤ MAX_SYMLINK_TRAVERSALS)
    (h : resolveInRoot w (kcfgK w rflags nofollow) path ≠ .error ELOOP) :
    resolveInRoot w (ecfg rflags nofollow) path = resolveInRoot w (kcfgK w rflags nofollow) path := by
  by_cases hp : path = []
  · rw [hp]; rfl
  · rw [resolveInRoot_eq hp] at h
    rw [resolveInRoot_eq hp, resolveInRoot_eq hp]
    exact kresolve_limit_mono (kcfgK w rflags nofollow) (ecfg rflags nofollow) rfl rfl hlinks _ _ _ h

/-- with `RESOLVE_NO_SYMLINKS` they agree unconditionally -/
theorem C04_spec_agree_nosym (rflags : Nat) (nofollow : Bool) (path : Bytes)
    (hns : hasAll rflags RESOLVE_NO_SYMLINKS = true) :
    resolveInRoot w (ecfg rflags nofollow) path = resolveInRoot w (kcfgK w rflags nofollow) path := by
  by_cases hp : path = []
  · rw [hp]; rfl
  · rw [resolveInRoot_eq hp, resolveInRoot_eq hp]
    exact kresolve_nosym (kcfgK w rflags nofollow) (ecfg rflags nofollow) rfl hns hns _ _ _ _

/-- `Root::resolve` / `resolve_nofollow`: the same object or the same errno on both backends -/
theorem C04_resolve_agree (hw : w.WF) (path : Bytes) (hnul : path.contains 0 = false) (rflags : Nat)
    (nofollow : Bool) (hlinks : w.kernelLinks ≤ MAX_SYMLINK_TRAVERSALS)
    (h : Prog.run w (Openat2.resolve (kenv w) w.root path rflags nofollow) ≠ .error (.os ELOOP)) :
    Prog.run w (Opath.resolve (kenv w) w.root path rflags nofollow)
      = Prog.run w (Openat2.resolve (kenv w) w.root path rflags nofollow) := by
  rw [C01_kernel hw path hnul] at h ⊢
  rw [C01_emulated hw, C04_spec_agree rflags nofollow path hlinks]
  intro he; rw [he] at h; exact h rfl

/-- `Root::readlink`: the same body or the same errno on both backends -/
theorem C04_readlink_agree (hw : w.WF) (path : Bytes) (hnul : path.contains 0 = false) (rflags : Nat)
    (hlinks : w.kernelLinks ≤ MAX_SYMLINK_TRAVERSALS)
    (h : resolveInRoot w (kcfgK w rflags true) path ≠ .error ELOOP) :
    Prog.run w (Root.readlink (kenv w) { fd := w.root, resolver := { emulated := true, rflags } } path)
      = Prog.run w (Root.readlink (kenv w) { fd := w.root, resolver := { emulated := false, rflags } } path) := by
  rw [C01_readlink hw _ path hnul, C01_readlink hw _ path hnul]
  simp only [↓reduceIte, Bool.false_eq_true]
  rw [C04_spec_agree rflags true path hlinks h]

/-! ### the one-shot open -/

open KOpen in
/-- **`Root::open_subpath` agrees on both backends** (object or errno) unless the kernel ran out of its link
budget: the emulated resolve + inspect + re-open through procfs is the kernel's single `openat2` -/
theorem C04_open_agree (hw : w.WF) (path : Bytes) (hnul : path.contains 0 = false) (rflags flags : Nat)
    (hcf : (hasAny flags (O_CREAT ||| O_EXCL) || hasAll flags O_TMPFILE) = false)
    (hlinks : w.kernelLinks ≤ MAX_SYMLINK_TRAVERSALS)
    (h : resolveInRoot w (kcfgK w rflags (hasAll flags O_NOFOLLOW)) path ≠ .error ELOOP) :
    Prog.run w (Resolver.openOnce (kenv w) { emulated := true, rflags } w.root path flags)
      = Prog.run w (Resolver.openOnce (kenv w) { emulated := false, rflags } w.root path flags) := by
  rw [C01_open_subpath hw _ path hnul flags hcf, C01_open_subpath hw _ path hnul flags hcf]
  simp only [↓reduceIte, Bool.false_eq_true]
  unfold openSpec
  rw [C04_spec_agree rflags (hasAll flags O_NOFOLLOW) path hlinks h]

/-- … and refuse creation flags alike -/
theorem C04_open_agree_creation (path : Bytes) (rflags flags : Nat)
    (hcf : (hasAny flags (O_CREAT ||| O_EXCL) || hasAll flags O_TMPFILE) = true) :
    Prog.run w (Resolver.openOnce (kenv w) { emulated := true, rflags } w.root path flags)
      = Prog.run w (Resolver.openOnce (kenv w) { emulated := false, rflags } w.root path flags) := by
  rw [C01_open_subpath_creation _ path flags hcf, C01_open_subpath_creation _ path flags hcf]

/-! ### partial lookups (`mkdir_all`) -/

/-- what `mkdir_all` does with a partial lookup: the directory to start from and the components to create -/
def obsPartial : Except Err (Fd × Option Bytes) → Except Err (Fd × List Bytes)
  | .ok (h, r) => .ok (h, Root.remainingParts r)
  | .error e => .error e

open KProbe in
theorem partial_agree_core (hw : w.WF) (path : Bytes) (hp : path ≠ []) (hnul : path.contains 0 = false) (rflags : Nat)
    (hfull : kresolve w (ecfg rflags false) w.root (Path.rawComponents path) 0
      = kresolve w (kcfgK w rflags false) w.root (Path.rawComponents path) 0)
    (hconv : ∀ k, pfx w (kcfgK w rflags false) (Path.rawComponents path) k ≠ .error ELOOP →
      pfx w (ecfg rflags false) (Path.rawComponents path) k = pfx w (kcfgK w rflags false) (Path.rawComponents path) k) :
    obsPartial (Prog.run w (Root.partialTarget (kenv w) { fd := w.root, resolver := { emulated := true, rflags } } path))
      = obsPartial (Prog.run w (Root.partialTarget (kenv w) { fd := w.root, resolver := { emulated := false, rflags } } path)) := by
  have he := run_partialTarget hw { emulated := true, rflags } path hp hnul (ecfg rflags false) rfl
  have hk := run_partialTarget hw { emulated := false, rflags } path hp hnul (kcfgK w rflags false) rfl
  rw [hfull] at he
  cases hres : kresolve w (kcfgK w rflags false) w.root (Path.rawComponents path) 0 with
  | ok h =>
    rw [hres] at he hk
    rw [he, hk]
  | error e =>
    rw [hres] at he hk
    by_cases hen : e = ENOENT
    · simp only [hen, ↓reduceIte] at he hk
      obtain ⟨je, h1, r1, e1, e2, e3, e4⟩ := he
      obtain ⟨jk, h2, r2, k1, k2, k3, k4⟩ := hk
      -- the kernel backend's stopping position is one for the emulated budget too, and there is only one
      have u2 : pfx w (ecfg rflags false) (Path.rawComponents path) jk = .ok h2 := by
        rw [hconv jk (by rw [k2]; intro h; cases h), k2]
      have u3 : pfx w (ecfg rflags false) (Path.rawComponents path) (jk + 1) = .error ENOENT := by
        rw [hconv (jk + 1) (by rw [k3]; intro h; cases h), k3]
      obtain ⟨hj, hh⟩ := stop_unique (ecfg rflags false) rfl _ je jk h1 h2 _ _ e2 e3 u2 u3
      subst hj; subst hh
      rw [e1, k1]
      simp only [obsPartial, e4, k4]
    · simp only [hen, ↓reduceIte] at he hk
      rw [he, hk]

/-- **Partial lookups agree**: `mkdir_all`'s partial lookup gives the same starting directory and the same
components to create, or the same error, on both backends — unless the kernel ran out of its link budget. -/
theorem C04_partial_agree (hw : w.WF) (path : Bytes) (hp : path ≠ []) (hnul : path.contains 0 = false) (rflags : Nat)
    (hlinks : w.kernelLinks ≤ MAX_SYMLINK_TRAVERSALS)
    (h : kresolve w (kcfgK w rflags false) w.root (Path.rawComponents path) 0 ≠ .error ELOOP) :
    obsPartial (Prog.run w (Root.partialTarget (kenv w) { fd := w.root, resolver := { emulated := true, rflags } } path))
      = obsPartial (Prog.run w (Root.partialTarget (kenv w) { fd := w.root, resolver := { emulated := false, rflags } } path)) :=
  partial_agree_core hw path hp hnul rflags
    (kresolve_limit_mono (kcfgK w rflags false) (ecfg rflags false) rfl rfl hlinks _ _ _ h)
    (fun _ hk => kresolve_limit_mono (kcfgK w rflags false) (ecfg rflags false) rfl rfl hlinks _ _ _ hk)

/-- with `RESOLVE_NO_SYMLINKS` they agree unconditionally -/
theorem C04_partial_agree_nosym (hw : w.WF) (path : Bytes) (hp : path ≠ []) (hnul : path.contains 0 = false) (rflags : Nat)
    (hns : hasAll rflags RESOLVE_NO_SYMLINKS = true) :
    obsPartial (Prog.run w (Root.partialTarget (kenv w) { fd := w.root, resolver := { emulated := true, rflags } } path))
      = obsPartial (Prog.run w (Root.partialTarget (kenv w) { fd := w.root, resolver := { emulated := false, rflags } } path)) :=
  partial_agree_core hw path hp hnul rflags
    (kresolve_nosym (kcfgK w rflags false) (ecfg rflags false) rfl hns hns _ _ _ _)
    (fun _ _ => kresolve_nosym (kcfgK w rflags false) (ecfg rflags false) rfl hns hns _ _ _ _)

/-- non-vacuity: on the example world the hypotheses hold for the missing path `zz/y` -/
example : obsPartial (Prog.run exWorld (Root.partialTarget (kenv exWorld) { fd := exWorld.root, resolver := { emulated := true, rflags := 0 } } b!"zz/y"))
    = obsPartial (Prog.run exWorld (Root.partialTarget (kenv exWorld) { fd := exWorld.root, resolver := { emulated := false, rflags := 0 } } b!"zz/y")) := by
  apply C04_partial_agree exWorld_wf _ (by decide) (by decide) _ (by decide)
  have hr : Path.rawComponents b!"zz/y" = [b!"zz", b!"y"] := by decide
  rw [hr]
  show exWorld.kresolve _ 4 [b!"zz", b!"y"] 0 ≠ _
  rw [k_name (by rfl) (by decide) (by decide)]
  have : exWorld.child 4 b!"zz" = none := by decide
  rw [this]
  intro h; cases h

/-- non-vacuity: on the example world `a` resolves (no-follow) to the link itself on both backends -/
example : Prog.run exWorld (Opath.resolve (kenv exWorld) exWorld.root b!"a" 0 true)
    = Prog.run exWorld (Openat2.resolve (kenv exWorld) exWorld.root b!"a" 0 true) := by
  apply C04_resolve_agree exWorld_wf _ (by decide) _ _ (by decide)
  rw [C01_kernel exWorld_wf _ (by decide)]
  rw [exWorld_resolve_a _ rfl]
  intro h; cases h
