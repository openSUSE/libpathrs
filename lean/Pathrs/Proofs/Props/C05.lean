import Pathrs.Proofs.SafeRoot

/-!
# C05 — only single, non-followed components are ever handed to the kernel

`Disc followOk c` (`Pathrs/Discipline.lean`) is the discipline as a decidable
predicate on one system call:

* `openat`: a real directory descriptor (never `AT_FDCWD`), one component without
  `/`, raw flags ⊇ `O_NOFOLLOW|O_CLOEXEC|O_NOCTTY`; the only other shapes are the
  bootstrap `openat(AT_FDCWD, "/proc")` and — only when `followOk` — an `openat`
  that still has `O_CLOEXEC|O_NOCTTY` (the one followed link of `open_follow`);
* `openat2`: `O_CLOEXEC` and a resolve mask ⊇ `IN_ROOT|NO_MAGICLINKS` or
  ⊇ `BENEATH|NO_XDEV|NO_MAGICLINKS`;
* `readlinkat` only on the descriptor itself (empty name); `fstatat`/`statx` with
  exactly `AT_NO_AUTOMOUNT|AT_SYMLINK_NOFOLLOW|AT_EMPTY_PATH`;
* every mutating `*at` call: real descriptors and single components, `linkat`
  without `AT_SYMLINK_FOLLOW`;
* diagnostics (`FrozenFd`) and bootstrap only below `/proc/`.

`Safe (Disc f) p Q` says: under **every** environment whose answers never contain
a negative descriptor, every call `p` makes satisfies `Disc f`.  The hypotheses are
that the caller's root descriptor and the global procfs descriptor are real
descriptors.
-/

open K

variable (env : Env) (root : Root)

/-! ## Operations that never follow anything (`Disc false`) -/

theorem C05_resolve (path : Bytes) (nofollow : Bool) (hr : 0 ≤ root.fd) (hp : 0 ≤ env.proc.fd) :
    Safe (Disc false) (Root.resolve env root path nofollow) FdOk :=
  (Root.resolve_disc env root hr hp path nofollow).safe fun _ => Ok.elim

theorem C05_readlink (path : Bytes) (hr : 0 ≤ root.fd) (hp : 0 ≤ env.proc.fd) :
    Safe (Disc false) (Root.readlink env root path) (fun _ => True) :=
  (Root.readlink_disc env root hr hp path).safe fun _ _ => trivial

theorem C05_create (path : Bytes) (ty : InodeType) (hr : 0 ≤ root.fd) (hp : 0 ≤ env.proc.fd) :
    Safe (Disc false) (Root.create env root path ty) (fun _ => True) :=
  (Root.create_disc env root hr hp path ty).safe fun _ _ => trivial

theorem C05_create_file (path : Bytes) (flags perm : Nat) (hr : 0 ≤ root.fd) (hp : 0 ≤ env.proc.fd) :
    Safe (Disc false) (Root.createFile env root path flags perm) FdOk :=
  (Root.createFile_disc env root hr hp path flags perm).safe fun _ => Ok.elim

theorem C05_remove_inode (path : Bytes) (isDir : Bool) (hr : 0 ≤ root.fd) (hp : 0 ≤ env.proc.fd) :
    Safe (Disc false) (Root.removeInode env root path isDir) (fun _ => True) :=
  (Root.removeInode_disc env root hr hp path isDir).safe fun _ _ => trivial

theorem C05_remove_all (path : Bytes) (hr : 0 ≤ root.fd) (hp : 0 ≤ env.proc.fd) :
    Safe (Disc false) (Root.removeAll env root path) (fun _ => True) :=
  (Root.removeAll_disc env root hr hp path).safe fun _ _ => trivial

theorem C05_rename (src dst : Bytes) (rflags : Nat) (hr : 0 ≤ root.fd) (hp : 0 ≤ env.proc.fd) :
    Safe (Disc false) (Root.rename env root src dst rflags) (fun _ => True) :=
  (Root.rename_disc env root hr hp src dst rflags).safe fun _ _ => trivial

theorem C05_proc_open (h : ProcH) (base : Procfs.Base) (subpath : Bytes) (oflags fuel : Nat)
    (hh : 0 ≤ h.fd) : Safe (Disc false) (Procfs.openH env fuel h base subpath oflags) FdOk :=
  (Procfs.openH_sat (lookupPass true) env fuel base subpath oflags hh).disc.safe fun _ => Ok.elim

theorem C05_proc_readlink (h : ProcH) (base : Procfs.Base) (subpath : Bytes) (hh : 0 ≤ h.fd) :
    Safe (Disc false) (Procfs.readlinkH env h base subpath) (fun _ => True) :=
  (Procfs.readlinkH_sat (lookupPass true) env base subpath hh).disc.safe fun _ _ => trivial

theorem C05_procfs_new : Safe (Disc false) (Procfs.new env) ProcHOk :=
  (Procfs.new_sat (lookupPass true) env).disc.safe fun _ => Ok.elim

theorem C05_procfs_new_unmasked : Safe (Disc false) (Procfs.newUnmasked env) ProcHOk :=
  (Procfs.newUnmasked_sat (lookupPass true) env).disc.safe fun _ => Ok.elim

/-! ## Operations that contain the one followed link (`Disc true`) -/

theorem C05_proc_open_follow (h : ProcH) (base : Procfs.Base) (subpath : Bytes) (oflags : Nat)
    (hh : 0 ≤ h.fd) : Safe (Disc true) (Procfs.openFollowH env h base subpath oflags) FdOk :=
  (Procfs.openFollowH_sat (lookupPass true) env base subpath oflags hh).disc.safe fun _ => Ok.elim

theorem C05_reopen (fd : Fd) (flags : Nat) (hf : 0 ≤ fd) (hp : 0 ≤ env.proc.fd) :
    Safe (Disc true) (Procfs.reopen env fd flags) FdOk :=
  (Procfs.reopen_sat (lookupPass true) flags hf hp).disc.safe fun _ => Ok.elim

theorem C05_open_subpath (path : Bytes) (flags : Nat) (hr : 0 ≤ root.fd) (hp : 0 ≤ env.proc.fd) :
    Safe (Disc true) (Root.openSubpath env root path flags) FdOk :=
  (Root.openSubpath_disc env root hr hp path flags).safe fun _ => Ok.elim

theorem C05_mkdir_all (path : Bytes) (perm : Nat) (hr : 0 ≤ root.fd) (hp : 0 ≤ env.proc.fd) :
    Safe (Disc true) (Root.mkdirAll env root path perm) FdOk :=
  (Root.mkdirAll_disc env root hr hp path perm).safe fun _ => Ok.elim

/-! ## What `Safe` means for runs -/

/-- Every call of every run of a `Safe` program against an environment that never
answers with a negative descriptor satisfies the discipline. -/
theorem C05_safe_means_every_call {α : Type} {f : Bool} (p : Prog α) (Q : α → Prop)
    (hp : Safe (Disc f) p Q) (o : Oracle) (hsane : ∀ h c, (o h c).sane) :
    ∀ cr ∈ (p.trace o []).1, Disc f cr.1 :=
  (Safe.trace_calls hp o hsane [] (by simp)).1

/-! ## Non-vacuity: the predicate accepts a disciplined call and rejects undisciplined ones -/

example : Disc false (.openat 5 b!"a" (O_PATH ||| O_NOFOLLOW ||| O_CLOEXEC ||| O_NOCTTY) 0) := by decide
example : ¬ Disc true (.openat 5 b!"a/b" (O_PATH ||| O_NOFOLLOW ||| O_CLOEXEC ||| O_NOCTTY) 0) := by decide
example : ¬ Disc false (.openat 5 b!"a" (O_PATH ||| O_CLOEXEC ||| O_NOCTTY) 0) := by decide
example : ¬ Disc true (.openat AT_FDCWD b!"a" (O_PATH ||| O_NOFOLLOW ||| O_CLOEXEC ||| O_NOCTTY) 0) := by decide
example : ¬ Disc true (.unlinkat 5 b!"a/b" 0) := by decide
example : ¬ Disc true (.openat2 5 b!"a/b" (O_PATH ||| O_CLOEXEC) 0 RESOLVE_NO_SYMLINKS 24) := by decide
example : ¬ Disc true (.linkat 5 b!"a" 6 b!"b" 0x400) := by decide
