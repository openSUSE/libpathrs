import Pathrs.Proofs.KProcReopen
import Pathrs.Proofs.Ancestors

/-!
# C07 — the final-component table of the procfs layer, on every procfs tree with mounts (`PWorld`)

`ProcfsHandle::open` and `readlink` never follow a trailing symlink of any kind; `open_follow` follows exactly the
trailing link.  The helper lemmas (`C07Table.*`) decompose the confined lookup of `parent/trailing` into the lookup of
`parent` and one last step (`openSpec_split`), and from it read the specifications of `readlink`, of the following half
and of the whole of `open_follow` (`KProcReopen.lean`: `prun_openFollowH`) at the final component (`*_split`).
-/

open K PWorld KProc KProcOpen KProcReopen

namespace C07Table

variable {w : PWorld}

/-- the final `open(2)` of the object `o` a lookup ended at -/
def openAs (w : PWorld) (o : Fd) (fl : Nat) : Except Nat Fd :=
  match openKind (w.kind o) fl with
  | .ok () => .ok o
  | .error e => .error e

/-- a confined lookup that asked for a directory ended at `d`: the same lookup of the path with one more component `t`
arrives at `d` with `[t]` left to do -/
theorem presolve_snoc (c c' : PCfg) (hdir : hasAll c.oflags O_DIRECTORY = true)
    (hns : c'.noSymlinks = c.noSymlinks) (hml : c'.maxLinks = c.maxLinks)
    (t : Bytes) (cur : Fd) (rem : List Bytes) (links : Nat) (d : Fd) (hne : rem ≠ [])
    (h : presolve w c cur rem links = .ok d) :
    ∃ links', presolve w c' cur (rem ++ [t]) links = presolve w c' d [t] links' := by
  -- with `t` behind them, the rounds of the successful run are all rounds with more to come
  refine presolve_ok (motive := fun cur rem links d =>
      ∃ links', presolve w c' cur (rem ++ [t]) links = presolve w c' d [t] links') ?_ ?_ ?_ cur rem links d hne h
  · intro cur x links nxt hop ho
    -- having passed `open(2)` with `O_DIRECTORY`, the last object is no link
    exact ⟨links, p_more hop (fun hx => by rw [openKind_ok_dir _ _ hdir (ho hx)]; rfl) (by simp)⟩
  · intro cur x rest links nxt r hop hnl ⟨l', ih⟩
    exact ⟨l', (p_more hop hnl (by simp)).trans ih⟩
  · intro cur x rest links l r hop hx hk hnos hlim habs ⟨l', ih⟩
    refine ⟨l', (p_link_more hop hx hk (by simp) (hns ▸ hnos) (hml ▸ hlim) habs).trans ?_⟩
    rwa [List.append_assoc] at ih

theorem presolve_last (c : PCfg) (hnf : hasAll c.oflags O_NOFOLLOW = true) (d l : Fd) (t : Bytes) (links : Nat)
    (htd : t ≠ Path.dotdot) (ht : t ≠ []) (hl : w.lookup d t = .ok l) :
    presolve w c d [t] links = if w.mnt l ≠ w.mnt d then .error EXDEV else openAs w l c.oflags := by
  rw [p_step htd, if_neg ht, hl]
  simp only [hnf, and_self, ↓reduceIte, ite_self]
  rfl

theorem openAs_ok {o r : Fd} {fl : Nat} (h : openAs w o fl = .ok r) : r = o :=
  ((match_ok_iff _ _ _).1 h).2.symm

/-- `open(2)` of a link itself (`O_NOFOLLOW`): the kernel's table -/
theorem openAs_link {l : Fd} (hk : isLink (w.kind l) = true) (fl : Nat) :
    openAs w l fl =
      if hasAll fl O_DIRECTORY then .error ENOTDIR else if hasAll fl O_PATH then .ok l else .error ELOOP := by
  unfold openAs
  rcases isLink_cases hk with h | h <;> rw [h] <;> simp only [openKind] <;>
    cases hasAll fl O_DIRECTORY <;> cases hasAll fl O_PATH <;> rfl

theorem openAs_opath (l : Fd) : openAs w l (O_PATH ||| O_NOFOLLOW) = .ok l := by
  unfold openAs
  rw [openKind_walk]

theorem pathSplit_shape {sub parent trailing : Bytes} (h : Path.pathSplit sub = .ok (parent, some trailing))
    (habs : Path.isAbsolute parent = false) :
    Path.isAbsolute sub = false ∧
      (Path.rawComponents parent ++ [trailing] = Path.rawComponents sub ∨
        (parent = Path.dot ∧ Path.rawComponents sub = [trailing])) := by
  obtain ⟨_, hns, ⟨rfl, rfl⟩ | ⟨pre, rfl, rfl⟩⟩ := Path.pathSplit_some_iff.1 h
  · exact ⟨Path.single_not_absolute _ hns, Or.inr ⟨rfl, KPath.splitSlash_single_piece _ hns⟩⟩
  · have hpre : pre ≠ [] := by
      intro h0
      rw [if_pos h0] at habs
      exact absurd habs (by decide)
    rw [if_neg hpre] at habs ⊢
    refine ⟨by rw [Path.isAbsolute_append _ _ hpre, habs], Or.inl ?_⟩
    show Path.splitSlash pre ++ [trailing] = Path.splitSlash (pre ++ Path.slash :: trailing)
    rw [KPath.splitSlash_append, KPath.splitSlash_single_piece _ hns]

/-- **The decomposition of `ProcfsHandle::open`'s lookup at the final component.**  When the no-follow directory lookup
of `parent` yields `d` and `d` has the entry `l` under the final name, the lookup of the whole sub-path is: `EXDEV` when
something is mounted on the entry, otherwise `open(2)` — with `O_NOFOLLOW` — of `l` itself. -/
theorem openSpec_split (bp sub parent trailing : Bytes) (hsub : SubOk sub parent trailing) (oflags : Nat) (d l : Fd)
    (hd : openSpec w bp parent (O_PATH ||| O_DIRECTORY) = .ok d) (hl : w.lookup d trailing = .ok l) :
    openSpec w bp sub oflags = if w.mnt l ≠ w.mnt d then .error EXDEV else openAs w l (oflags ||| O_NOFOLLOW) := by
  obtain ⟨b, hb, hd⟩ := openSpec_ok _ _ _ _ hd
  obtain ⟨habs, hd⟩ := resolveBeneath_ok hd
  obtain ⟨hsabs, hshape⟩ := pathSplit_shape hsub.split habs
  rw [openSpec_eq hb, resolveBeneath_eq _ _ hsub.sub_ne hsabs]
  -- `sub` is `parent/trailing`, or it is one name and `parent` is `.`, a round that stays at the base directory: either
  -- way its walk is the walk of `parent` with `trailing` behind it, replayed by `presolve_snoc`
  have hraw : presolve (rebase w b) (ecfgP (oflags ||| O_NOFOLLOW)) b (Path.rawComponents sub) 0 =
      presolve (rebase w b) (ecfgP (oflags ||| O_NOFOLLOW)) b (Path.rawComponents parent ++ [trailing]) 0 := by
    rcases hshape with hraw | ⟨rfl, hraw⟩
    · rw [hraw]
    · have hd : presolve (rebase w b) _ b [Path.dot] 0 = .ok d := hd
      have hk : (rebase w b).kind b = .dir := by
        by_cases hk : (rebase w b).kind b = .dir
        · exact hk
        · rw [p_notdir _ _ _ _ _ hk] at hd; cases hd
      rw [hraw]
      exact (p_more ⟨lookup_dot hk (Or.inr rfl), rfl, nofun⟩ (fun _ => by rw [hk]; rfl) (by simp)).symm
  obtain ⟨l', hl2⟩ := presolve_snoc (w := rebase w b) (ecfgP (O_PATH ||| O_DIRECTORY ||| O_NOFOLLOW))
    (ecfgP (oflags ||| O_NOFOLLOW)) (by decide) rfl rfl trailing _ (Path.rawComponents parent) 0 d
    (KPath.splitSlash_ne_nil parent) hd
  have htd : trailing ≠ Path.dotdot := fun h0 => hsub.nodd <| h0 ▸ by
    rcases hshape with h | ⟨_, h⟩
    · rw [← h]; simp
    · rw [h]; simp
  exact hraw.trans <| hl2.trans <|
    presolve_last (w := rebase w b) (ecfgP (oflags ||| O_NOFOLLOW)) (hasAll_or_left _ _) d l trailing l' htd
      hsub.trailing_ne hl

/-- what the kernel does with the one following `openat(d, name, fl)` when the entry is `l`, by the kind of `l` -/
def followTrailing (w : PWorld) (l : Fd) (fl : Nat) : Except Nat Fd :=
  match w.kind l with
  | .magic => (match w.target l with
      | some t => openAs w t (fl ||| O_CLOEXEC ||| O_NOCTTY)
      | none => .error ENOENT)
  | .lnk => (match w.follow l with
      | .ok t => openAs w t (fl ||| O_CLOEXEC ||| O_NOCTTY)
      | .error e => .error e)
  | .dir | .other => openAs w l (fl ||| O_NOFOLLOW)

theorem followOpen_link {d l : Fd} {t : Bytes} {fl : Nat} (hl : w.lookup d t = .ok l)
    (hnf : hasAll fl O_NOFOLLOW = false) (hk : isLink (w.kind l) = true) :
    followOpen w d t (fl ||| O_CLOEXEC ||| O_NOCTTY) = followTrailing w l fl := by
  have hnf' := (nofollow_forced fl).trans hnf
  unfold followOpen followTrailing
  rw [hl]
  dsimp only
  rw [if_neg (by rw [hnf', hk]; decide)]
  rcases isLink_cases hk with h | h
  · rw [h, if_neg (by decide)]
    cases w.follow l <;> rfl
  · rw [h, if_pos rfl]
    cases w.target l <;> rfl

theorem followTrailing_nonlink {l : Fd} {fl : Nat} (hk : isLink (w.kind l) = false) :
    followTrailing w l fl = openAs w l (fl ||| O_NOFOLLOW) := by
  unfold followTrailing
  cases h : w.kind l with
  | dir => rfl
  | other => rfl
  | lnk => rw [h] at hk; cases hk
  | magic => rw [h] at hk; cases hk

/-! ## the specifications at the final component

Once the verified parent `d` and its entry `l` under the final name are known, every specification of the procfs layer
is `EXDEV` when something is mounted on the entry, and otherwise a function of `l` alone. -/

section split

variable {bp sub parent trailing : Bytes} {d l : Fd}

theorem probeSpec_split (hsub : SubOk sub parent trailing)
    (hd : openSpec w bp parent (O_PATH ||| O_DIRECTORY) = .ok d) (hl : w.lookup d trailing = .ok l) :
    probeSpec w bp sub =
      if w.mnt l ≠ w.mnt d then .error (.os EXDEV)
      else if isLink (w.kind l) = true then .ok (w.body l) else .error (.os EINVAL) := by
  unfold probeSpec
  rw [openSpec_split bp sub parent trailing hsub O_PATH d l hd hl]
  by_cases hm : w.mnt l ≠ w.mnt d
  · rw [if_pos hm, if_pos hm]
  · rw [if_neg hm, if_neg hm, openAs_opath]

theorem followSpec_split (hd : openSpec w bp parent (O_PATH ||| O_DIRECTORY) = .ok d)
    (hl : w.lookup d trailing = .ok l) (fl : Nat) :
    followSpec w bp parent trailing fl =
      if w.mnt l ≠ w.mnt d then .error EXDEV else followOpen w d trailing (fl ||| O_CLOEXEC ||| O_NOCTTY) := by
  unfold followSpec
  rw [hd]
  simp only []
  rw [hl]

/-- `open_follow`: the probe sends a link to the following half and anything else to the no-follow open -/
theorem openFollowSpec_split (hsub : SubOk sub parent trailing)
    (hd : openSpec w bp parent (O_PATH ||| O_DIRECTORY) = .ok d) (hl : w.lookup d trailing = .ok l) (fl : Nat) :
    openFollowSpec w bp sub parent trailing fl =
      toOutP (if w.mnt l ≠ w.mnt d then .error EXDEV
              else if isLink (w.kind l) = true then followOpen w d trailing (fl ||| O_CLOEXEC ||| O_NOCTTY)
              else openAs w l (fl ||| O_NOFOLLOW)) := by
  unfold openFollowSpec
  rw [probeSpec_split hsub hd hl, followSpec_split hd hl, openSpec_split bp sub parent trailing hsub fl d l hd hl]
  by_cases hm : w.mnt l ≠ w.mnt d
  · simp only [if_pos hm]
    rw [if_neg (by decide), if_neg (by decide)]
    rfl
  · simp only [if_neg hm]
    by_cases hk : isLink (w.kind l) = true
    · simp only [if_pos hk]
    · simp only [if_neg hk, true_or, ↓reduceIte]

end split

end C07Table

open C07Table

/-! Everywhere below: `w` is any procfs tree with any mounts (`PWF`), the handle is the unmasked handle on
its root with the emulated resolver, `sub = parent/trailing` (`SubOk`; `parent = "."` for a one-component `sub`),
`d` is the directory the confined no-follow lookup of `parent` below the base yields, and `l` is the entry of `d` under
the name `trailing`, on the mount of `d`.
-/

/-- **`open`, any final component**: the call is the `O_NOFOLLOW` `open(2)` of the entry `l` itself. -/
theorem C07_open_trailing {w : PWorld} (hw : PWF w) (env : Env) (base : Procfs.Base) (sub parent trailing : Bytes)
    (oflags fuel : Nat) (hprobe : Prog.prun w (Procfs.intoPath base w.base) = .ok (basePath base))
    (hsub : SubOk sub parent trailing)
    (hcf : (hasAny oflags (O_CREAT ||| O_EXCL) || hasAll oflags O_TMPFILE) = false) (d l : Fd)
    (hd : openSpec w (basePath base) parent (O_PATH ||| O_DIRECTORY) = .ok d)
    (hl : w.lookup d trailing = .ok l) (hm : w.mnt l = w.mnt d) :
    Prog.prun w (Procfs.openH env (fuel + 1) (handleOf w) base sub oflags) =
      toOutP (openAs w l (oflags ||| O_NOFOLLOW)) := by
  rw [prun_openH hw env base sub oflags fuel hprobe hsub.sub_ne hsub.nodd hcf,
    openSpec_split (basePath base) sub parent trailing hsub oflags d l hd hl, if_neg (by simp [hm])]

/-- **`open`, the final component is a link (ordinary or magic)**: with `O_PATH` (and without `O_DIRECTORY`) the call
returns the link object `l` itself — never what it leads to; without `O_PATH` it fails with `ELOOP`; with
`O_DIRECTORY` it fails with `ENOTDIR` (the kernel's table for `O_NOFOLLOW` on a symlink). -/
theorem C07_open_trailing_link {w : PWorld} (hw : PWF w) (env : Env) (base : Procfs.Base) (sub parent trailing : Bytes)
    (oflags fuel : Nat) (hprobe : Prog.prun w (Procfs.intoPath base w.base) = .ok (basePath base))
    (hsub : SubOk sub parent trailing)
    (hcf : (hasAny oflags (O_CREAT ||| O_EXCL) || hasAll oflags O_TMPFILE) = false) (d l : Fd)
    (hd : openSpec w (basePath base) parent (O_PATH ||| O_DIRECTORY) = .ok d)
    (hl : w.lookup d trailing = .ok l) (hm : w.mnt l = w.mnt d) (hk : isLink (w.kind l) = true) :
    Prog.prun w (Procfs.openH env (fuel + 1) (handleOf w) base sub oflags) =
      if hasAll oflags O_DIRECTORY then .error (.os ENOTDIR)
      else if hasAll oflags O_PATH then .ok l
      else .error (.os ELOOP) := by
  rw [C07_open_trailing hw env base sub parent trailing oflags fuel hprobe hsub hcf d l hd hl hm, openAs_link hk,
    hasAll_or_disj_right _ _ _ (by decide), hasAll_or_disj_right _ _ _ (by decide)]
  rw [apply_ite toOutP, apply_ite toOutP]
  rfl

/-- **`open`, the final component is not a link**: a success returns `l`. -/
theorem C07_open_trailing_nonlink {w : PWorld} (hw : PWF w) (env : Env) (base : Procfs.Base)
    (sub parent trailing : Bytes) (oflags fuel : Nat)
    (hprobe : Prog.prun w (Procfs.intoPath base w.base) = .ok (basePath base))
    (hsub : SubOk sub parent trailing)
    (hcf : (hasAny oflags (O_CREAT ||| O_EXCL) || hasAll oflags O_TMPFILE) = false) (d l : Fd)
    (hd : openSpec w (basePath base) parent (O_PATH ||| O_DIRECTORY) = .ok d)
    (hl : w.lookup d trailing = .ok l) (hm : w.mnt l = w.mnt d) (_hk : isLink (w.kind l) = false) (o : Fd)
    (h : Prog.prun w (Procfs.openH env (fuel + 1) (handleOf w) base sub oflags) = .ok o) : o = l := by
  rw [C07_open_trailing hw env base sub parent trailing oflags fuel hprobe hsub hcf d l hd hl hm] at h
  exact openAs_ok (toOutP_ok h)

/-- **`readlink`**: the body of the entry `l` itself when `l` is a link (for a magic-link: the text the kernel prints
for it), `EINVAL` when it is not — never the body of anything `l` leads to, and nothing is followed. -/
theorem C07_readlink_trailing {w : PWorld} (hw : PWF w) (env : Env) (base : Procfs.Base) (sub parent trailing : Bytes)
    (hprobe : Prog.prun w (Procfs.intoPath base w.base) = .ok (basePath base))
    (hsub : SubOk sub parent trailing) (d l : Fd)
    (hd : openSpec w (basePath base) parent (O_PATH ||| O_DIRECTORY) = .ok d)
    (hl : w.lookup d trailing = .ok l) (hm : w.mnt l = w.mnt d) :
    Prog.prun w (Procfs.readlinkH env (handleOf w) base sub) =
      if isLink (w.kind l) = true then .ok (w.body l) else .error (.os EINVAL) := by
  rw [prun_readlinkH hw env base sub hprobe hsub.sub_ne hsub.nodd, probeSpec_split hsub hd hl, if_neg (by simp [hm])]

/-- **`open_follow`, any final component** (flags without `O_NOFOLLOW`): when `l` is a link the call is the following
half (`followSpec`: the verified parent, then one `openat` that lets the kernel follow this one link), otherwise it is
the no-follow `open`; in both cases the result is `followTrailing`, the table by the kind of `l`. -/
theorem C07_open_follow_eq {w : PWorld} (hw : PWF w) (env : Env) (base : Procfs.Base) (sub parent trailing : Bytes)
    (fl : Nat) (hprobe : Prog.prun w (Procfs.intoPath base w.base) = .ok (basePath base))
    (hsub : SubOk sub parent trailing)
    (hcf : (hasAny fl (O_CREAT ||| O_EXCL) || hasAll fl O_TMPFILE) = false)
    (hnf : hasAll fl O_NOFOLLOW = false) (d l : Fd)
    (hd : openSpec w (basePath base) parent (O_PATH ||| O_DIRECTORY) = .ok d)
    (hl : w.lookup d trailing = .ok l) (hm : w.mnt l = w.mnt d) :
    Prog.prun w (Procfs.openFollowH env (handleOf w) base sub fl) =
        toOutP (if isLink (w.kind l) = true then followSpec w (basePath base) parent trailing fl
                else openSpec w (basePath base) sub fl) ∧
      Prog.prun w (Procfs.openFollowH env (handleOf w) base sub fl) = toOutP (followTrailing w l fl) := by
  have hm' : ¬ w.mnt l ≠ w.mnt d := by simp [hm]
  have hrun := prun_openFollowH hw env base sub parent trailing fl hprobe hsub hcf
  rw [openFollowSpec_split hsub hd hl, if_neg hm'] at hrun
  refine ⟨?_, ?_⟩
  · rw [hrun, followSpec_split hd hl, openSpec_split (basePath base) sub parent trailing hsub fl d l hd hl, if_neg hm',
      if_neg hm']
  · rw [hrun]
    by_cases hk : isLink (w.kind l) = true
    · rw [if_pos hk, followOpen_link hl hnf hk]
    · rw [if_neg hk, followTrailing_nonlink (by simpa using hk)]

/-- **`open_follow`, the rows of the table**: a success returns exactly the target of a magic-link, exactly what the
kernel's walk of an ordinary symlink's body yields (one link, followed by the kernel), and `l` itself when `l` is not a
link. -/
theorem C07_open_follow_trailing {w : PWorld} (hw : PWF w) (env : Env) (base : Procfs.Base) (sub parent trailing : Bytes)
    (fl : Nat) (hprobe : Prog.prun w (Procfs.intoPath base w.base) = .ok (basePath base))
    (hsub : SubOk sub parent trailing)
    (hcf : (hasAny fl (O_CREAT ||| O_EXCL) || hasAll fl O_TMPFILE) = false)
    (hnf : hasAll fl O_NOFOLLOW = false) (d l : Fd)
    (hd : openSpec w (basePath base) parent (O_PATH ||| O_DIRECTORY) = .ok d)
    (hl : w.lookup d trailing = .ok l) (hm : w.mnt l = w.mnt d) (o : Fd)
    (h : Prog.prun w (Procfs.openFollowH env (handleOf w) base sub fl) = .ok o) :
    (w.kind l = .magic → w.target l = some o) ∧
    (w.kind l = .lnk → w.follow l = .ok o) ∧
    (isLink (w.kind l) = false → o = l) := by
  rw [prun_openFollowH hw env base sub parent trailing fl hprobe hsub hcf, openFollowSpec_split hsub hd hl,
    if_neg (by simp [hm])] at h
  have h := toOutP_ok h
  by_cases hk : isLink (w.kind l) = true
  · have hnf' := (nofollow_forced fl).trans hnf
    rw [if_pos hk] at h
    obtain ⟨h1, h2, _⟩ := followOpen_ok hl h
    exact ⟨h1 hnf', h2 hnf', fun hk' => absurd hk (by simp [hk'])⟩
  · rw [if_neg hk] at h
    exact ⟨fun hk' => absurd (by rw [hk']; rfl) hk, fun hk' => absurd (by rw [hk']; rfl) hk, fun _ => openAs_ok h⟩

/-- **an entry that was mounted over**: `open`, `readlink` and `open_follow` all fail with `EXDEV`; neither the entry
nor what is mounted on it is returned or read. -/
theorem C07_trailing_overmounted {w : PWorld} (hw : PWF w) (env : Env) (base : Procfs.Base)
    (sub parent trailing : Bytes) (fl fuel : Nat)
    (hprobe : Prog.prun w (Procfs.intoPath base w.base) = .ok (basePath base))
    (hsub : SubOk sub parent trailing)
    (hcf : (hasAny fl (O_CREAT ||| O_EXCL) || hasAll fl O_TMPFILE) = false) (d l : Fd)
    (hd : openSpec w (basePath base) parent (O_PATH ||| O_DIRECTORY) = .ok d)
    (hl : w.lookup d trailing = .ok l) (hm : w.mnt l ≠ w.mnt d) :
    Prog.prun w (Procfs.openH env (fuel + 1) (handleOf w) base sub fl) = .error (.os EXDEV) ∧
    Prog.prun w (Procfs.readlinkH env (handleOf w) base sub) = .error (.os EXDEV) ∧
    Prog.prun w (Procfs.openFollowH env (handleOf w) base sub fl) = .error (.os EXDEV) := by
  refine ⟨?_, ?_, ?_⟩
  · rw [prun_openH hw env base sub fl fuel hprobe hsub.sub_ne hsub.nodd hcf,
      openSpec_split (basePath base) sub parent trailing hsub fl d l hd hl, if_pos hm]
    rfl
  · rw [prun_readlinkH hw env base sub hprobe hsub.sub_ne hsub.nodd, probeSpec_split hsub hd hl, if_pos hm]
  · rw [prun_openFollowH hw env base sub parent trailing fl hprobe hsub hcf, openFollowSpec_split hsub hd hl, if_pos hm]
    rfl

namespace C07Table

/-- `KProcReopen.exampleWorldR` — `/proc` with `self -> 100`, the magic-link `100/exe`, the file `100/status`, another
mount on `uptime` — in which the magic-link `100/exe` (object 18) leads to an object 52 outside the tree and the kernel's
walk of the body of `self` (object 12) arrives at the directory `100` (object 14) -/
def exampleWorldF : PWorld :=
  { exampleWorldR with
    target := fun d => if d = 18 then some 52 else exampleWorldR.target d
    follow := fun d => if d = 12 then .ok 14 else .error ELOOP }

theorem exampleWorldF_wf : PWF exampleWorldF :=
  ⟨exampleWorldR_wf.base_nonneg, exampleWorldR_wf.base_dir, exampleWorldR_wf.child_nonneg, exampleWorldR_wf.lnk_body,
    exampleWorldR_wf.magic_body⟩

theorem exF_probe : Prog.prun exampleWorldF (Procfs.intoPath .root exampleWorldF.base) = .ok (basePath .root) := rfl

theorem exF_base : resolveBeneath exampleWorldF (ecfgP (O_PATH ||| O_DIRECTORY)) (basePath .root) = .ok 10 := by
  rw [resolveBeneath_eq _ _ (by decide) (by decide)]
  show presolve exampleWorldF _ 10 [b!"."] 0 = _
  rw [p_step (by decide)]
  rfl

/-- the parent `.` of a one-component sub-path: the base directory itself -/
theorem exF_parent_dot : openSpec exampleWorldF (basePath .root) b!"." (O_PATH ||| O_DIRECTORY) = .ok 10 := by
  rw [openSpec_eq exF_base, resolveBeneath_eq _ _ (by decide) (by decide)]
  show presolve (rebase exampleWorldF 10) _ 10 [b!"."] 0 = _
  rw [p_step (by decide)]
  rfl

/-- the parent `100`: the directory 14 -/
theorem exF_parent_100 : openSpec exampleWorldF (basePath .root) b!"100" (O_PATH ||| O_DIRECTORY) = .ok 14 := by
  rw [openSpec_eq exF_base, resolveBeneath_eq _ _ (by decide) (by decide)]
  show presolve (rebase exampleWorldF 10) _ 10 [b!"100"] 0 = _
  rw [p_step (by decide)]
  rfl

theorem exF_exe : exampleWorldF.lookup 14 b!"exe" = .ok 18 := rfl
theorem exF_status : exampleWorldF.lookup 14 b!"status" = .ok 16 := rfl
theorem exF_self : exampleWorldF.lookup 10 b!"self" = .ok 12 := rfl
theorem exF_uptime : exampleWorldF.lookup 10 b!"uptime" = .ok 26 := rfl

theorem subOk_exe : SubOk b!"100/exe" b!"100" b!"exe" :=
  ⟨by decide, rfl, by decide, by decide, by decide, by decide, by decide⟩
theorem subOk_status : SubOk b!"100/status" b!"100" b!"status" :=
  ⟨by decide, rfl, by decide, by decide, by decide, by decide, by decide⟩
theorem subOk_self : SubOk b!"self" b!"." b!"self" :=
  ⟨by decide, rfl, by decide, by decide, by decide, by decide, by decide⟩
theorem subOk_uptime : SubOk b!"uptime" b!"." b!"uptime" :=
  ⟨by decide, rfl, by decide, by decide, by decide, by decide, by decide⟩

end C07Table

/-! ### the magic-link row: `100/exe` is the magic-link 18, which leads to 52 -/

example (env : Env) :
    Prog.prun exampleWorldF (Procfs.openH env 1 (handleOf exampleWorldF) .root b!"100/exe" O_PATH) = .ok 18 :=
  C07_open_trailing_link exampleWorldF_wf env .root _ _ _ O_PATH 0 exF_probe subOk_exe (by decide) 14 18 exF_parent_100 exF_exe (by decide) (by decide)

example (env : Env) :
    Prog.prun exampleWorldF (Procfs.openH env 1 (handleOf exampleWorldF) .root b!"100/exe" O_RDONLY) =
      .error (.os ELOOP) :=
  C07_open_trailing_link exampleWorldF_wf env .root _ _ _ O_RDONLY 0 exF_probe subOk_exe (by decide) 14 18 exF_parent_100 exF_exe (by decide) (by decide)

example (env : Env) :
    Prog.prun exampleWorldF (Procfs.readlinkH env (handleOf exampleWorldF) .root b!"100/exe") = .ok b!"/usr/bin/x" :=
  C07_readlink_trailing exampleWorldF_wf env .root _ _ _ exF_probe subOk_exe 14 18 exF_parent_100 exF_exe (by decide)

example (env : Env) :
    Prog.prun exampleWorldF (Procfs.openFollowH env (handleOf exampleWorldF) .root b!"100/exe" O_RDONLY) = .ok 52 :=
  (C07_open_follow_eq exampleWorldF_wf env .root _ _ _ O_RDONLY exF_probe subOk_exe (by decide) (by decide) 14 18
    exF_parent_100 exF_exe (by decide)).2

example (env : Env) : exampleWorldF.target 18 = some 52 :=
  (C07_open_follow_trailing exampleWorldF_wf env .root _ _ _ O_RDONLY exF_probe subOk_exe (by decide) (by decide) 14 18
    exF_parent_100 exF_exe (by decide) 52
    (C07_open_follow_eq exampleWorldF_wf env .root _ _ _ O_RDONLY exF_probe subOk_exe (by decide) (by decide) 14 18
      exF_parent_100 exF_exe (by decide)).2).1 (by decide)

/-! ### the symlink row: `self` is the ordinary symlink 12 with body `100`; the kernel's walk of it arrives at 14 -/

example (env : Env) :
    Prog.prun exampleWorldF (Procfs.openH env 1 (handleOf exampleWorldF) .root b!"self" O_PATH) = .ok 12 :=
  C07_open_trailing_link exampleWorldF_wf env .root _ _ _ O_PATH 0 exF_probe subOk_self (by decide) 10 12 exF_parent_dot exF_self (by decide) (by decide)

example (env : Env) :
    Prog.prun exampleWorldF (Procfs.openH env 1 (handleOf exampleWorldF) .root b!"self" (O_PATH ||| O_DIRECTORY)) =
      .error (.os ENOTDIR) :=
  C07_open_trailing_link exampleWorldF_wf env .root _ _ _ (O_PATH ||| O_DIRECTORY) 0 exF_probe subOk_self (by decide)
    10 12 exF_parent_dot exF_self (by decide) (by decide)

example (env : Env) :
    Prog.prun exampleWorldF (Procfs.readlinkH env (handleOf exampleWorldF) .root b!"self") = .ok b!"100" :=
  C07_readlink_trailing exampleWorldF_wf env .root _ _ _ exF_probe subOk_self 10 12 exF_parent_dot exF_self (by decide)

example (env : Env) :
    Prog.prun exampleWorldF (Procfs.openFollowH env (handleOf exampleWorldF) .root b!"self" O_RDONLY) = .ok 14 :=
  (C07_open_follow_eq exampleWorldF_wf env .root _ _ _ O_RDONLY exF_probe subOk_self (by decide) (by decide) 10 12
    exF_parent_dot exF_self (by decide)).2

example (env : Env) : exampleWorldF.follow 12 = .ok 14 :=
  (C07_open_follow_trailing exampleWorldF_wf env .root _ _ _ O_RDONLY exF_probe subOk_self (by decide) (by decide) 10 12
    exF_parent_dot exF_self (by decide) 14
    (C07_open_follow_eq exampleWorldF_wf env .root _ _ _ O_RDONLY exF_probe subOk_self (by decide) (by decide) 10 12
      exF_parent_dot exF_self (by decide)).2).2.1 (by decide)

/-! ### the non-link row: `100/status` is the file 16 -/

example (env : Env) :
    Prog.prun exampleWorldF (Procfs.openH env 1 (handleOf exampleWorldF) .root b!"100/status" O_RDONLY) = .ok 16 :=
  C07_open_trailing exampleWorldF_wf env .root _ _ _ O_RDONLY 0 exF_probe subOk_status (by decide) 14 16 exF_parent_100 exF_status (by decide)

example (env : Env) (o : Fd)
    (h : Prog.prun exampleWorldF (Procfs.openH env 1 (handleOf exampleWorldF) .root b!"100/status" O_RDONLY) = .ok o) :
    o = 16 :=
  C07_open_trailing_nonlink exampleWorldF_wf env .root _ _ _ O_RDONLY 0 exF_probe subOk_status (by decide) 14 16
    exF_parent_100 exF_status (by decide) (by decide) o h

example (env : Env) :
    Prog.prun exampleWorldF (Procfs.readlinkH env (handleOf exampleWorldF) .root b!"100/status") =
      .error (.os EINVAL) :=
  C07_readlink_trailing exampleWorldF_wf env .root _ _ _ exF_probe subOk_status 14 16 exF_parent_100 exF_status
    (by decide)

example (env : Env) :
    Prog.prun exampleWorldF (Procfs.openFollowH env (handleOf exampleWorldF) .root b!"100/status" O_RDONLY) = .ok 16 :=
  (C07_open_follow_eq exampleWorldF_wf env .root _ _ _ O_RDONLY exF_probe subOk_status (by decide) (by decide) 14 16
    exF_parent_100 exF_status (by decide)).2

/-! ### the over-mounted row: another mount lies on `uptime` (object 26) -/

example (env : Env) :
    Prog.prun exampleWorldF (Procfs.openFollowH env (handleOf exampleWorldF) .root b!"uptime" O_RDONLY) =
      .error (.os EXDEV) :=
  (C07_trailing_overmounted exampleWorldF_wf env .root _ _ _ O_RDONLY 0 exF_probe subOk_uptime (by decide) 10 26
    exF_parent_dot exF_uptime (by decide)).2.2
