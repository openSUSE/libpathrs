import Pathrs.Proofs.SafeRoot
import Pathrs.Proofs.KProc

/-!
# C07 — procfs lookups stay inside procfs and follow only the requested final link

Besides the environment-universal facts below (creation flags, forced `O_NOFOLLOW`, `..` and absolute paths refused,
the kernel mask, `Disc false` for the emulated walk), the two procfs resolvers are related to one specification on
`PWorld` (`Kernel/ProcWorld.lean`: an immutable procfs tree — directories, ordinary symlinks, magic-links, files —
whose objects carry mount ids, with the kernel's answers and `presolve`/`resolveBeneath`, the meaning of
`openat2(RESOLVE_BENEATH|RESOLVE_NO_XDEV|RESOLVE_NO_MAGICLINKS)`):

* `C07_emulated_is_spec`: for every such tree with any mounts on top of it, every non-empty sub-path without `..` and
  every flag set of the resolver's final-component table (`FlagsOk`: what every caller in the library passes), the
  emulated resolver returns exactly what the kernel's confined lookup returns — object or errno: a magic-link as a
  component or followed is `ELOOP`, a mount crossing `EXDEV`, the trailing link is followed iff `O_NOFOLLOW` is absent;
* `C07_resolvers_agree`: hence the emulated and the kernel resolver agree (unless the kernel ran out of its link budget).

Excluded by hypothesis, as the property says or as known findings: the empty path and `..` (the emulated resolver refuses
`..` outright), magic-links whose body is not absolute (F13: `PWF.magic_body`).
-/

open K Procfs

/-- `O_CREAT`, `O_EXCL` and `O_TMPFILE` are refused by the resolver entry point of both
procfs resolvers before any system call -/
theorem C07_creation_flags_refused (env : Env) (emu : Bool) (root : Fd) (path : Bytes) (oflags rflags : Nat)
    (h : hasAny oflags (O_CREAT ||| O_EXCL) = true ∨ hasAll oflags O_TMPFILE = true) :
    resolve env emu root path oflags rflags = Prog.ret (.error .invalidArgument) := by
  unfold resolve
  simp only [Bool.or_eq_true_iff.mpr h, ↓reduceIte]
  rfl

/-- the flags `open_follow` really uses: a trailing slash adds `O_DIRECTORY` -/
def followFlags (sub : Bytes) (oflags : Nat) : Nat :=
  if (Path.stripTrailingSlash sub).2 then oflags ||| O_DIRECTORY else oflags

/-- … and by `open_follow`, whose final component does not go through the resolver (finding F18).
The check is made on the flags that will be used: `O_TMPFILE` contains `O_DIRECTORY`, so the bare
`__O_TMPFILE` bit plus a trailing slash is a creation request too (finding F21). -/
theorem C07_creation_flags_refused_open_follow (env : Env) (hd : ProcH) (base : Base) (sub : Bytes)
    (oflags : Nat)
    (h : hasAny (followFlags sub oflags) (O_CREAT ||| O_EXCL) = true ∨ hasAll (followFlags sub oflags) O_TMPFILE = true) :
    openFollowH env hd base sub oflags = Prog.ret (.error .invalidArgument) := by
  unfold openFollowH
  unfold followFlags at h
  simp only [Bool.or_eq_true_iff.mpr h, ↓reduceIte]
  rfl

/-- in particular creation bits in the caller's own flag word are refused, whatever the path -/
theorem C07_creation_flags_refused_open_follow_raw (env : Env) (hd : ProcH) (base : Base) (sub : Bytes)
    (oflags : Nat) (h : hasAny oflags (O_CREAT ||| O_EXCL) = true ∨ hasAll oflags O_TMPFILE = true) :
    openFollowH env hd base sub oflags = Prog.ret (.error .invalidArgument) := by
  apply C07_creation_flags_refused_open_follow
  unfold followFlags
  split
  · rcases h with h | h
    · exact Or.inl (hasAny_or_mono _ _ _ h)
    · exact Or.inr (hasAll_or_mono _ _ _ h)
  · exact h

/-- F21: the bare `__O_TMPFILE` bit with a trailing slash on the path is refused -/
example (env : Env) (hd : ProcH) :
    openFollowH env hd .self b!"cwd/" (0o20000000 ||| O_RDWR) = Prog.ret (.error .invalidArgument) := by
  apply C07_creation_flags_refused_open_follow
  right
  decide

/-- `ProcfsHandle::open` forces `O_NOFOLLOW`: one level of it is the same whether or not the
caller passed the flag -/
theorem C07_open_forces_nofollow (env : Env) (again : ProcH → Nat → M Fd) (hd : ProcH) (base : Base)
    (sub : Bytes) (oflags : Nat) :
    openStep env again hd base sub (oflags ||| O_NOFOLLOW) = openStep env again hd base sub oflags := by
  unfold openStep
  rw [Nat.or_assoc, Nat.or_self]

/-- the emulated walk stops at a `..` component with `EXDEV`; it closes its descriptor and
makes no other call (in particular it never looks `..` up) -/
theorem C07_dotdot_refused (m : Option Nat) (oflags rflags : Nat) (cur : Fd) (rest : List Bytes) (links : Nat) :
    opathLoop m oflags rflags cur (Path.dotdot :: rest) links
      = M.bind' (M.lift (Sys.close cur)) fun _ => throw (.os EXDEV) := by
  rw [opathLoop]
  simp [Path.dotdot]

/-- an absolute sub-path is refused with `EXDEV` before any call, like `RESOLVE_BENEATH` (finding F19) -/
theorem C07_absolute_path_refused (root : Fd) (path : Bytes) (oflags rflags : Nat)
    (h : Path.isAbsolute path = true) :
    opathResolve root path oflags rflags = Prog.ret (.error (.os EXDEV)) := by
  unfold opathResolve
  simp only [h, ↓reduceIte]
  rfl

/-- the kernel resolver's mask is exactly `BENEATH|NO_MAGICLINKS|NO_XDEV` plus the caller's
resolver flags, on the given root -/
theorem C07_kernel_resolver_mask (env : Env) (root : Fd) (path : Bytes) (oflags rflags : Nat)
    (h : env.openat2 = true) :
    openat2Resolve env root path oflags rflags =
      Sys.openat2 root path oflags (RESOLVE_BENEATH ||| RESOLVE_NO_MAGICLINKS ||| RESOLVE_NO_XDEV ||| rflags) := by
  unfold openat2Resolve
  simp [h]

/-- every call of the emulated procfs walk is disciplined with *no* followed link at all:
single components, `O_NOFOLLOW`, link bodies read from the opened descriptor only -/
theorem C07_emulated_walk_disciplined (root : Fd) (path : Bytes) (oflags rflags : Nat) (hr : 0 ≤ root) :
    Safe (Disc false) (opathResolve root path oflags rflags) FdOk :=
  (opathResolve_sat (lookupPass false) path rflags nofun hr).disc.safe fun _ => Ok.elim

/-- the link budget of the emulated walk is 128.  (That a walk which has followed 127 links refuses the next one is the
test `links + 1 ≥ MAX_SYMLINK_TRAVERSALS` in `opathLoop`, whose recursion is well-founded on
`(128 - links, remaining components)`: Lean's acceptance of that definition is the termination argument.) -/
theorem C07_link_budget : MAX_SYMLINK_TRAVERSALS = 128 := rfl

example : hasAll (O_TMPFILE ||| O_RDWR) O_TMPFILE = true := by decide
example : hasAll O_DIRECTORY O_TMPFILE = false := by decide
example : Path.isAbsolute b!"//status" = true := by decide

/-! ## both resolvers against the specification of the confined lookup -/

open KProc PWorld in
theorem C07_emulated_is_spec {w : PWorld} (hw : PWF w) (path : Bytes) (hp : path ≠ [])
    (hdd : Path.dotdot ∉ Path.rawComponents path) (oflags rflags : Nat) (hfl : FlagsOk oflags) :
    Prog.prun w (Procfs.opathResolve w.base path oflags rflags) =
      toOutP (resolveBeneath w { oflags := oflags, noSymlinks := hasAll rflags RESOLVE_NO_SYMLINKS,
                                 maxLinks := MAX_SYMLINK_TRAVERSALS } path) :=
  opathResolve_spec hw path hp hdd oflags rflags hfl

open KProc PWorld in
theorem C07_resolvers_agree {w : PWorld} (hw : PWF w) (env : Env) (henv : env.openat2 = true) (path : Bytes) (hp : path ≠ [])
    (hnul : path.contains 0 = false) (hdd : Path.dotdot ∉ Path.rawComponents path) (oflags rflags : Nat)
    (hfl : FlagsOk oflags) (hlinks : w.kernelLinks ≤ MAX_SYMLINK_TRAVERSALS)
    (h : resolveBeneath w { oflags := oflags, noSymlinks := hasAll rflags RESOLVE_NO_SYMLINKS,
                            maxLinks := w.kernelLinks } path ≠ .error ELOOP) :
    Prog.prun w (Procfs.opathResolve w.base path oflags rflags)
      = Prog.prun w (Procfs.openat2Resolve env w.base path oflags rflags) := by
  rw [opathResolve_spec hw path hp hdd oflags rflags hfl, openat2Resolve_spec hw env henv path hnul oflags rflags]
  -- both sides are the specification under the configuration of `h`: with the larger budget, resp. with `O_CLOEXEC`
  refine congrArg toOutP ((resolveBeneath_cfg _ _ ?_ ?_ ?_ hlinks path h).trans
    (resolveBeneath_cfg _ _ ?_ ?_ ?_ ?_ path h).symm)
  · rfl
  · rfl
  · exact fun _ => rfl
  · exact hasAll_or_disj_left _ _ _ (by decide)
  · exact hasAll_or_disj_right _ _ _ (by decide)
  · exact fun k => openKind_or k oflags O_CLOEXEC (by decide)
  · exact Nat.le_refl _

