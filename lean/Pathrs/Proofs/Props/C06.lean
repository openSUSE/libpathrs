import Pathrs.Proofs.Runs
import Pathrs.Proofs.KProc
import Pathrs.Proofs.KProcReopen

/-!
# C06 — procfs calls return only genuine procfs objects

The protection against over-mounts is a check *on the descriptor that is about to
be returned*, not on a name: whatever the environment does (mounts appearing or
disappearing at any moment, any answers at all), a descriptor returned by a
procfs lookup passed, as the last thing that happened, `fstatfs(fd) =
PROC_SUPER_MAGIC`, after `statx(fd, "")` reported the mount id of the handle.

On `PWorld` (a procfs tree whose objects carry mount ids: an over-mounted entry leads to the root of the other
mount) the same is a statement about objects: `C06_spec_same_mount` — the confined lookup only ever returns an object
on the mount it started on — and `C06_emulated_same_mount` — so does the emulated resolver, whatever is mounted wherever;
`C06_open_on_mounts`: the whole `ProcfsHandle::open` (base directory, then the sub-path, each verified) returns only
objects of the handle's own mount.
-/

open K Procfs

/-- the mount id a `statx` answer stands for in `fetch_mnt_id` -/
def mntOf : Resp → Option Nat
  | .nums [mask, id] => if hasAny mask STATX_WANT then some id else none
  | _ => none

theorem fetchMntId_inv {dir : Fd} {path : Bytes} {h h' : Hist} {id : Option Nat}
    (hr : Runs (fetchMntId dir path) h h' (.ok id)) :
    ∃ resp, (h ++ [(.statx dir path STAT_FLAGS STATX_WANT, resp)]) <+: h' ∧ mntOf resp = id := by
  obtain ⟨resp, hpre, ⟨m, i, rfl, rfl⟩ | ⟨rfl | rfl, rfl⟩⟩ := fetchMntId_ok hr <;> exact ⟨_, hpre, rfl⟩

theorem verifySameProcfsMnt_inv {hd : ProcH} {fd : Fd} {h h' : Hist}
    (hr : Runs (verifySameProcfsMnt hd fd) h h' (.ok ())) :
    (∃ resp, (h ++ [(.statx fd [] STAT_FLAGS STATX_WANT, resp)]) <+: h' ∧ mntOf resp = hd.mntId) ∧
    (∃ pre, h' = pre ++ [(.fstatfs fd, .nums [PROC_SUPER_MAGIC])]) := by
  unfold verifySameProcfsMnt at hr
  obtain ⟨hm, _, h1, h2⟩ := Runs.mbind_ok hr
  obtain ⟨resp, hpre, hmnt⟩ := fetchMntId_inv (verifySameMnt_ok h1)
  unfold verifyIsProcfs at h2
  obtain ⟨hx, t, h5, h6⟩ := Runs.mbind_ok h2
  obtain ⟨ht, h6⟩ := Runs.unless_ok h6
  obtain ⟨rfl, _⟩ := Runs.pure_ok h6
  exact ⟨⟨resp, hpre.trans h2.isPrefix, hmnt⟩, hm, by rw [fstatfs_ok_inv h5, Decidable.not_not.mp ht]⟩

/-- a descriptor handed on only after `verify_same_procfs_mnt` passed on it: how `open_base` and the lookup below it end -/
theorem verified_inv {hd : ProcH} {p : M Fd} {h h' : Hist} {fd : Fd}
    (hr : Runs (M.bind' p fun fd => M.bind' ((verifySameProcfsMnt hd fd).onErr (Sys.close fd)) fun _ => pure fd)
      h h' (.ok fd)) :
    (∃ hm resp, h <+: hm ∧ (hm ++ [(.statx fd [] STAT_FLAGS STATX_WANT, resp)]) <+: h' ∧
        mntOf resp = hd.mntId) ∧
    (∃ pre, h' = pre ++ [(.fstatfs fd, .nums [PROC_SUPER_MAGIC])]) := by
  obtain ⟨hm, fd', h1, h2⟩ := Runs.mbind_ok hr
  obtain ⟨_, _, h3, h4⟩ := Runs.mbind_ok h2
  obtain ⟨rfl, rfl⟩ := Runs.pure_ok h4
  obtain ⟨⟨resp, hp, hmnt⟩, hlast⟩ := verifySameProcfsMnt_inv (Runs.onErr_ok h3)
  exact ⟨⟨hm, resp, h1.isPrefix, hp, hmnt⟩, hlast⟩

/-- **Every descriptor a procfs lookup returns was verified on the descriptor itself.**
For every environment: if the lookup below an opened base directory returns `fd`, then after
the `openat2`/walk that produced it, `statx(fd, "")` was answered with the mount id of the
handle (or "unknown" exactly when the handle's is unknown), and the very last call of the
run is `fstatfs(fd)` answered with `PROC_SUPER_MAGIC`. -/
theorem C06_lookup_verified (env : Env) (hd : ProcH) (basedir : Fd) (subpath : Bytes) (oflags : Nat)
    (h h' : Hist) (fd : Fd)
    (hr : Runs (lookupVerified env hd basedir subpath oflags) h h' (.ok fd)) :
    (∃ hm resp, h <+: hm ∧ (hm ++ [(.statx fd [] STAT_FLAGS STATX_WANT, resp)]) <+: h' ∧
        mntOf resp = hd.mntId) ∧
    (∃ pre, h' = pre ++ [(.fstatfs fd, .nums [PROC_SUPER_MAGIC])]) :=
  verified_inv hr

/-- the same for the base directory (`open_base`) -/
theorem C06_base_verified (env : Env) (hd : ProcH) (base : Base) (h h' : Hist) (fd : Fd)
    (hr : Runs (openBase env hd base) h h' (.ok fd)) :
    (∃ hm resp, h <+: hm ∧ (hm ++ [(.statx fd [] STAT_FLAGS STATX_WANT, resp)]) <+: h' ∧
        mntOf resp = hd.mntId) ∧
    (∃ pre, h' = pre ++ [(.fstatfs fd, .nums [PROC_SUPER_MAGIC])]) := by
  unfold openBase at hr
  obtain ⟨_, path, h0, hk⟩ := Runs.mbind_ok hr
  obtain ⟨⟨hm, resp, hp0, hp, hmnt⟩, hlast⟩ := verified_inv hk
  exact ⟨⟨hm, resp, h0.isPrefix.trans hp0, hp, hmnt⟩, hlast⟩

example : mntOf (.nums [0x5000, 77]) = some 77 := by decide
example : mntOf (.err ENOSYS) = none := rfl

/-! ### on a procfs tree with mounts: only objects of the handle's own mount -/

open KProc PWorld in
theorem C06_spec_same_mount {w : PWorld} (c : PCfg) (path : Bytes) (r : Fd) (h : resolveBeneath w c path = .ok r) :
    w.mnt r = w.mnt w.base :=
  resolveBeneath_same_mnt c path r h

open KProc in
theorem C06_emulated_same_mount {w : PWorld} (hw : PWF w) (path : Bytes) (hp : path ≠ [])
    (hdd : Path.dotdot ∉ Path.rawComponents path) (oflags rflags : Nat) (hfl : FlagsOk oflags) (r : Fd)
    (h : Prog.prun w (Procfs.opathResolve w.base path oflags rflags) = .ok r) : w.mnt r = w.mnt w.base := by
  rw [opathResolve_spec hw path hp hdd oflags rflags hfl] at h
  exact resolveBeneath_same_mnt _ _ _ (toOutP_ok h)


open KProc KProcOpen in
/-- **`ProcfsHandle::open` on any procfs tree with any mount layout** (handle on the tree's base directory, not masked,
emulated resolver; `Proofs/KProcOpen.lean`): the call computes the two confined lookups of its specification
(`openSpec`: base directory, then the sub-path without following a final link), and an object it returns lies on the
handle's own mount — never on anything that was mounted over a component. -/
theorem C06_open_on_mounts {w : PWorld} (hw : PWF w) (env : Env) (base : Procfs.Base) (sub : Bytes) (oflags fuel : Nat)
    (hprobe : Prog.prun w (Procfs.intoPath base w.base) = .ok (basePath base))
    (hsub : sub ≠ []) (hdd : Path.dotdot ∉ Path.rawComponents sub)
    (hcf : (hasAny oflags (O_CREAT ||| O_EXCL) || hasAll oflags O_TMPFILE) = false) :
    Prog.prun w (Procfs.openH env (fuel + 1) (handleOf w) base sub oflags) = toOutP (openSpec w (basePath base) sub oflags) ∧
    ∀ o, Prog.prun w (Procfs.openH env (fuel + 1) (handleOf w) base sub oflags) = .ok o → w.mnt o = w.mnt w.base := by
  have hrun := prun_openH hw env base sub oflags fuel hprobe hsub hdd hcf
  refine ⟨hrun, fun o ho => ?_⟩
  rw [hrun] at ho
  exact openSpec_same_mnt _ _ _ _ (toOutP_ok ho)
