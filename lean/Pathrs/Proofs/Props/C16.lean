import Pathrs.Capi

/-!
# C16 — C error ids are unique, consumed exactly once, and never look like an errno

The table is the state machine `Capi.store` / `Capi.take`.  The random candidate
stream of `store_error` is an input (any stream), threads are sequentialised by
the table's mutex (assumed, not modelled: DESIGN.md §10): every concurrent
history is one of the operation sequences quantified over here.

Both operations are described once by what `List.lookup` answers afterwards
(`store_spec`, `take_fst`, `lookup_take`); the properties are read off from that.
-/

open Capi

def TableInv (t : Table) : Prop :=
  (t.map (·.1)).Nodup ∧ ∀ kv ∈ t, INT_MIN ≤ kv.1 ∧ kv.1 ≤ ID_MAX

/-! ## `List.lookup` on a table -/

theorem lookup_eq_none_iff_not_mem {t : Table} {c : Int} : t.lookup c = none ↔ c ∉ t.map (·.1) := by
  simp only [List.lookup_eq_none_iff, List.mem_map, not_exists, not_and, bne_iff_ne]
  exact ⟨fun h p hp e => h p hp e.symm, fun h p hp e => h p hp e.symm⟩

theorem lookup_cons_if (a k : Int) (v : Nat) (t : Table) :
    List.lookup a ((k, v) :: t) = if a = k then some v else List.lookup a t := by
  rw [List.lookup_cons]
  cases hb : a == k
  · exact (if_neg (ne_of_beq_false hb)).symm
  · exact (if_pos (eq_of_beq hb)).symm

theorem lookup_filter_ne (t : Table) (id a : Int) :
    List.lookup a (t.filter fun kv => kv.1 != id) = if a = id then none else List.lookup a t := by
  induction t with
  | nil => simp
  | cons kv rest ih =>
    obtain ⟨k, v⟩ := kv
    rw [List.filter_cons, lookup_cons_if]
    by_cases hk : k = id
    · subst hk
      rw [if_neg (by simp), ih]
      by_cases ha : a = k <;> simp only [ha, if_true, if_false]
    · rw [if_pos (by simpa using hk), lookup_cons_if, ih]
      by_cases ha : a = k
      · rw [if_pos ha, if_pos ha, if_neg (ha ▸ hk)]
      · rw [if_neg ha, if_neg ha]

/-! ## The two operations -/

theorem store_spec {t : Table} {errno : Nat} {cands : List Int} {id : Int} {t' : Table}
    (h : store t errno cands = some (id, t')) :
    INT_MIN ≤ id ∧ id ≤ ID_MAX ∧ (t.lookup id).isNone = true ∧ t' = (id, errno) :: t := by
  revert h
  -- by the clauses of `store`: no candidate; one that is vacant and in range; one that is not
  fun_induction store t errno cands with
  | case1 => exact nofun
  | case2 c rest hc => exact fun h => by cases h; exact ⟨hc.1, hc.2.1, hc.2.2, rfl⟩
  | case3 c rest hc ih => exact ih

theorem store_some {t : Table} {errno : Nat} {cands : List Int} {id : Int} {t' : Table}
    (h : store t errno cands = some (id, t')) : t' = (id, errno) :: t ∧ (t.lookup id).isNone = true :=
  ⟨(store_spec h).2.2.2, (store_spec h).2.2.1⟩

theorem take_fst (t : Table) (id : Int) : (take t id).1 = t.lookup id := by
  unfold take
  split <;> simp only [*]

theorem lookup_take (t : Table) (id a : Int) :
    List.lookup a (take t id).2 = if a = id then none else List.lookup a t := by
  unfold take
  split
  · rename_i h
    split
    · subst_vars; exact h
    · rfl
  · exact lookup_filter_ne t id a

/-- `store` returns an id in `[INT_MIN, -4096]` that was not live, records the
error under it and keeps the invariant. -/
theorem C16_store (t : Table) (errno : Nat) (cands : List Int) (id : Int) (t' : Table)
    (hinv : TableInv t) (h : store t errno cands = some (id, t')) :
    INT_MIN ≤ id ∧ id ≤ -4096 ∧ id ∉ t.map (·.1) ∧ t' = (id, errno) :: t ∧ TableInv t' := by
  obtain ⟨hlo, hhi, hvac, rfl⟩ := store_spec h
  have hnm := lookup_eq_none_iff_not_mem.mp (Option.isNone_iff_eq_none.mp hvac)
  refine ⟨hlo, hhi, hnm, rfl, List.nodup_cons.mpr ⟨hnm, hinv.1⟩, ?_⟩
  intro kv hkv
  rcases List.mem_cons.mp hkv with rfl | h2
  · exact ⟨hlo, hhi⟩
  · exact hinv.2 kv h2

/-- an id is never in the range of errno values (|id| > 4095) and never zero or positive -/
theorem C16_id_not_errno (t : Table) (errno : Nat) (cands : List Int) (id : Int) (t' : Table)
    (hinv : TableInv t) (h : store t errno cands = some (id, t')) : id < -4095 := by
  have := (C16_store t errno cands id t' hinv h).2.1
  omega

/-- `take` keeps the invariant -/
theorem C16_take_inv (t : Table) (id : Int) (hinv : TableInv t) : TableInv (take t id).2 := by
  unfold take
  split
  · exact hinv
  · exact ⟨hinv.1.sublist (List.filter_sublist.map _), fun kv hkv => hinv.2 kv (List.mem_filter.mp hkv).1⟩

/-- consuming one id does not disturb any other live id -/
theorem C16_take_other (t : Table) (id other : Int) (hne : other ≠ id) :
    List.lookup other (take t id).2 = List.lookup other t := by
  rw [lookup_take, if_neg hne]

/-- an unknown id (never issued, or already consumed) yields NULL and changes nothing -/
theorem C16_unknown_id (t : Table) (id : Int) (h : id ∉ t.map (·.1)) : take t id = (none, t) := by
  unfold take
  rw [lookup_eq_none_iff_not_mem.mpr h]

/-! ## Histories -/

inductive TableOp where
  | store (errno : Nat) (cands : List Int)
  | take (id : Int)

def runOp (t : Table) : TableOp → Table
  | .store e cands => match store t e cands with
    | some (_, t') => t'
    | none => t
  | .take id => (take t id).2

/-- the invariant holds after every sequence of operations, of any length, in
any order — i.e. in every linearisation of every concurrent history -/
theorem C16_invariant_all_histories (ops : List TableOp) : TableInv (ops.foldl runOp []) := by
  refine List.foldlRecOn ops runOp ⟨List.nodup_nil, fun _ h => nomatch h⟩ fun t h op _ => ?_
  cases op with
  | store e cands =>
    simp only [runOp]
    split
    · rename_i id t' hs; exact (C16_store t e cands id t' h hs).2.2.2.2
    · exact h
  | take id => exact C16_take_inv t id h

theorem runOp_keeps (t : Table) (id : Int) (e : Nat) (hl : List.lookup id t = some e)
    (op : TableOp) (hop : op ≠ .take id) : List.lookup id (runOp t op) = some e := by
  cases op with
  | store e' cands =>
    simp only [runOp]
    split
    · rename_i id' t' hs
      obtain ⟨_, _, hvac, rfl⟩ := store_spec hs
      -- the new entry is under an id that was vacant, hence not `id`
      have hne : id ≠ id' := fun heq => by rw [← heq, hl] at hvac; cases hvac
      rw [lookup_cons_if, if_neg hne, hl]
    · exact hl
  | take id2 =>
    have hne : id ≠ id2 := fun heq => hop (heq ▸ rfl)
    exact (C16_take_other t id2 id hne).trans hl

/-- **None lost, in every history.**  An error that is live stays retrievable with
its errno through any sequence of operations — any number of other errors stored
and consumed meanwhile, by any thread, in any order — that does not consume it. -/
theorem C16_live_until_taken (t : Table) (id : Int) (e : Nat) (hl : List.lookup id t = some e)
    (ops : List TableOp) (hno : ∀ op ∈ ops, op ≠ .take id) :
    List.lookup id (ops.foldl runOp t) = some e :=
  List.foldlRecOn ops runOp hl fun t ht op hop => runOp_keeps t id e ht op (hno op hop)

/-- … and the later `pathrs_errorinfo(id)` returns exactly that errno, after which
the id is dead: stored → (anything but its consumption)* → consumed once → NULL. -/
theorem C16_backlog_consumed_once (t : Table) (errno : Nat) (cands : List Int) (id : Int) (t' : Table)
    (h : store t errno cands = some (id, t')) (ops : List TableOp) (hno : ∀ op ∈ ops, op ≠ .take id) :
    (take (ops.foldl runOp t') id).1 = some errno ∧
    (take (take (ops.foldl runOp t') id).2 id).1 = none := by
  obtain ⟨_, _, _, rfl⟩ := store_spec h
  rw [take_fst, take_fst, lookup_take, if_pos rfl]
  exact ⟨C16_live_until_taken _ id errno (List.lookup_cons_self ..) ops hno, rfl⟩

/-- the error stored under an id is returned exactly once: the first
`pathrs_errorinfo(id)` yields its errno, the second yields NULL -/
theorem C16_consumed_exactly_once (t : Table) (errno : Nat) (cands : List Int) (id : Int) (t' : Table)
    (hinv : TableInv t) (h : store t errno cands = some (id, t')) :
    (take t' id).1 = some errno ∧ (take (take t' id).2 id).1 = none :=
  C16_backlog_consumed_once t errno cands id t' h [] (fun _ hop => nomatch hop)

/-- the errno reported for each error kind -/
theorem C16_errno_table :
    cErrno (.os 2) = 2 ∧ cErrno .invalidArgument = K.EINVAL ∧ cErrno .safetyViolation = K.EXDEV ∧
    cErrno .notImplemented = K.ENOSYS ∧ cErrno .notSupported = 0 ∧ cErrno .internalError = 0 ∧
    ∀ e, cErrno (.os e) = e :=
  ⟨rfl, rfl, rfl, rfl, rfl, rfl, fun _ => rfl⟩

/-! ## Non-vacuity -/

example : store [(-5000, 2)] 22 [-5000, 7, -4096] = some (-4096, [(-4096, 22), (-5000, 2)]) := by decide
example : (take ([TableOp.store 5 [-7000], .take (-5000), .store 9 [-5000]].foldl runOp
    [(-4096, 22), (-5000, 2)]) (-4096)).1 = some 22 :=
  (C16_backlog_consumed_once [(-5000, 2)] 22 [-5000, 7, -4096] (-4096) _ (by decide) _
    (by intro op h; simp only [List.mem_cons, List.not_mem_nil, or_false] at h
        rcases h with rfl | rfl | rfl <;> simp)).1
example : TableInv [(-4096, 22), (-5000, 2)] := ⟨by decide, by decide⟩
