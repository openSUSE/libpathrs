import Pathrs.Proofs.SafeRoot

/-!
# C03 — mutating Root operations never touch anything outside the root

Syntactic half of the property (for every environment, attackers included): the
*targets* of the mutating calls.  Every mutating call names a single slash-free
component below a descriptor the operation obtained by in-root resolution
(`C05_*` theorems: `Disc`), and for the two recursive operations the name is
never `.` or `..`: they cannot step sideways or upwards.  (`ProperName` admits the empty name; for `mkdir_all`
`remainingParts_proper` shows that the components handed to the creating loop are proper and not empty.)
The semantic half (the parent descriptors were inside the root) is C02's
containment argument plus the kernel's fd-relative semantics.
-/

/-- the discipline of the recursive operations: every call that creates, removes or
opens an entry names a proper component below a real descriptor -/
def Mut : Call → Prop
  | .openat dir name _ _ => 0 ≤ dir ∧ ProperName name
  | .unlinkat dir name _ => 0 ≤ dir ∧ ProperName name
  | .mkdirat dir name _ => 0 ≤ dir ∧ ProperName name
  | .mknodat _ _ _ _ => False
  | .linkat _ _ _ _ _ => False
  | .symlinkat _ _ _ => False
  | .renameat _ _ _ _ => False
  | .renameat2 _ _ _ _ _ => False
  | .openat2 _ _ _ _ _ _ => False
  | _ => True

theorem mutDiagOk : DiagOk Mut where
  gettid := trivial
  geteuid := trivial
  probe := fun _ _ => trivial
  readlinkAbs := fun _ _ => trivial
  close := fun _ => trivial
  dup := fun _ => trivial

theorem mutRemoveAllOk : RemoveAllOk (0 ≤ ·) Mut where
  unlinkat := fun _ hd hn => ⟨hd, hn⟩
  openat := fun hd hn => ⟨hd, hn⟩
  dirOpen := fun _ => trivial
  dirNext := fun _ => trivial

/-- **`remove_all` never steps sideways or upwards.**  For every environment (any
directory listings, any answers, any attacker), every `unlinkat` and every directory open
`remove_all` performs names one slash-free component that is neither `.` nor `..`, relative
to a real descriptor (`Mut` asks `0 ≤ dir`; that it is the directory given or one opened that
way is `RemoveAll.removeAll_sat`, which holds for every predicate true of the given directory
and of the descriptors the kernel hands out); it makes no other kind of mutating call.
(False before the repair of F1: `remove_all(dir, "..")`.) -/
theorem C03_remove_all_targets (fuel : Nat) : ∀ (dir : Fd) (name : Bytes), 0 ≤ dir →
    Safe Mut (RemoveAll.removeAll fuel dir name) (fun _ => True) :=
  fun _ name hd => (RemoveAll.removeAll_sat (G.pass mutDiagOk) mutRemoveAllOk fuel name hd).safe fun _ _ => trivial

/-- the not-yet-existing components `mkdir_all` creates are proper names: the filter drops
empty and `.` components, the `..` check refuses the rest -/
theorem remainingParts_proper (remaining : Option Bytes)
    (hnd : (Root.remainingParts remaining).any (· == Path.dotdot) = false) :
    ∀ p ∈ Root.remainingParts remaining, ProperName p ∧ p ≠ [] := by
  intro p hp
  have hne : p ≠ Path.dotdot := by
    intro h
    have : (Root.remainingParts remaining).any (· == Path.dotdot) = true := by
      rw [List.any_eq_true]; exact ⟨p, hp, by simp [h]⟩
    rw [this] at hnd; cases hnd
  unfold Root.remainingParts at hp
  simp only [List.mem_filter, Bool.and_eq_true, Bool.not_eq_true', bne_iff_ne, ne_eq] at hp
  obtain ⟨hmem, hnempty, hndot⟩ := hp
  have hs : single p := by
    split at hmem
    · cases hmem
    · exact rawComponents_single _ p hmem
  refine ⟨⟨hs, hndot, hne⟩, ?_⟩
  intro h; subst h; simp at hnempty

/-- **`mkdir_all` only creates and enters proper components** below the directory it
reopened: for every environment, every `mkdirat` and every directory open of the creating
loop names one of the given components, each slash-free and neither `.` nor `..` by hypothesis
(`remainingParts_proper`: the components `mkdir_all` computes are such). -/
theorem C03_mkdir_all_targets (perm : Nat) (parts : List Bytes) (hp : ∀ p ∈ parts, ProperName p) :
    ∀ cur : Fd, 0 ≤ cur → Safe Mut (Root.mkdirLoop perm cur parts) FdOk :=
  fun _ hc => (Root.mkdirLoop_sat (G.pass mutDiagOk) (fun hc _ hn => ⟨hc, hn⟩) (fun hc _ hn => ⟨hc, hn⟩) hp hc).safe
    fun _ => Ok.elim

/-- a trailing slash: the operation resolves the parent, closes it and reports
`InvalidArgument` — the mutating call is never reached -/
theorem C03_trailing_slash_create (env : Env) (root : Root) (path parent : Bytes) (ty : InodeType)
    (h : Path.pathSplit path = .ok (parent, none)) :
    Root.create env root path ty =
      M.bind' (Resolver.resolve env root.resolver root.fd parent false) fun dir =>
        M.bind' (M.lift (Sys.close dir)) fun _ => throw .invalidArgument :=
  (Root.create_eq env root path ty).trans (Root.withParent_split env root _ h)

theorem C03_trailing_slash_remove_all (env : Env) (root : Root) (path parent : Bytes)
    (h : Path.pathSplit path = .ok (parent, none)) :
    Root.removeAll env root path =
      M.bind' (Resolver.resolve env root.resolver root.fd parent false) fun dir =>
        M.bind' (M.lift (Sys.close dir)) fun _ => throw .invalidArgument :=
  (Root.removeAll_eq env root path).trans (Root.withParent_split env root _ h)

/-- `Root::create`, for the single-entry operations (the others are `C05_*`): the one mutating call is made on
(descriptor of the in-root resolution of the parent, final single component) — this is `Disc` for those calls -/
theorem C03_single_entry_targets (env : Env) (root : Root) (path : Bytes) (ty : InodeType)
    (hr : 0 ≤ root.fd) (hp : 0 ≤ env.proc.fd) :
    Safe (Disc false) (Root.create env root path ty) (fun _ => True) :=
  (Root.create_disc env root hr hp path ty).safe fun _ _ => trivial

/-- calls that do not open `.` or `..` -/
def NoDots : Call → Prop
  | .openat _ name _ _ => name ≠ Path.dot ∧ name ≠ Path.dotdot
  | _ => True

theorem noDotsDiagOk : DiagOk NoDots where
  gettid := trivial
  geteuid := trivial
  probe := fun _ _ => trivial
  readlinkAbs := fun _ _ => trivial
  close := fun _ => trivial
  dup := fun _ => trivial

/-- **the creating open of `create_file` never names `.` or `..`**, whatever the open flags and whatever the
environment answers.  This is what keeps `create_file("..", O_PATH)` inside the root: with `O_PATH` the kernel drops
`O_CREAT` and the call would be a plain lookup of the parent of the resolved directory (finding F24). -/
theorem C03_create_file_open_never_dots (dir : Fd) (name : Bytes) (flags perm : Nat) :
    Safe NoDots (Root.createFileOpen dir name flags perm) (fun _ => True) := by
  unfold Root.createFileOpen
  split
  · exact Safe.ret trivial
  · rename_i hname
    exact (Sys.openat_sat (G.pass noDotsDiagOk) fun _ => ⟨fun h => hname (Or.inl h), fun h => hname (Or.inr h)⟩).safe
      fun _ _ => trivial

/-! ## Non-vacuity -/

example : ProperName b!"a" := by refine ⟨by decide, by decide, by decide⟩
example : ¬ ProperName Path.dotdot := fun h => h.2.2 rfl
example : ¬ Mut (.unlinkat 5 Path.dotdot 0) := fun h => h.2.2.2 rfl
example : ¬ Mut (.openat 5 b!"a/b" 0 0) := by
  intro h; exact absurd h.2.1 (by decide)
