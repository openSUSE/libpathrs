import Pathrs.Proofs.Runs

/-!
# A rely/guarantee judgement for interaction trees

`Sat A D p Q`: along every sequence of answers in which each answer `r` to a call `c` satisfies `A c r`
(the rely), every call `p` makes satisfies `D` (the guarantee) and the result satisfies `Q`.

The environment-universal logics of the development are instances of it (`Safe.lean`): `Safe D` relies on
sane answers, `Prog.AllCalls' D` on nothing and has no postcondition, and with `D` trivial what is left is a
statement about results under the answers of some kernel.  The rules are therefore proved once, here.
-/

def Sat {α : Type} (A : Call → Resp → Prop) (D : Call → Prop) : Prog α → (α → Prop) → Prop
  | .ret a, Q => Q a
  | .call c k, Q => D c ∧ ∀ r, A c r → Sat A D (k r) Q

abbrev AnyAnswer : Call → Resp → Prop := fun _ _ => True

/-- the trivial predicate: as guarantee it allows every call, as postcondition it says nothing -/
abbrev Top {α : Type} : α → Prop := fun _ => True

namespace Sat

variable {α β : Type} {A A' : Call → Resp → Prop} {D D' : Call → Prop}

theorem ret_iff {a : α} {Q : α → Prop} : Sat A D (.ret a) Q ↔ Q a := Iff.rfl

theorem call_iff {c : Call} {k : Resp → Prog α} {Q : α → Prop} :
    Sat A D (.call c k) Q ↔ D c ∧ ∀ r, A c r → Sat A D (k r) Q := Iff.rfl

theorem ret {a : α} {Q : α → Prop} (h : Q a) : Sat A D (.ret a) Q := h

theorem call {c : Call} {k : Resp → Prog α} {Q : α → Prop} (hc : D c) (hk : ∀ r, A c r → Sat A D (k r) Q) :
    Sat A D (.call c k) Q := ⟨hc, hk⟩

theorem imp {p : Prog α} {Q Q' : α → Prop} (h : Sat A D p Q) (hA : ∀ c r, A' c r → A c r)
    (hD : ∀ c, D c → D' c) (hQ : ∀ a, Q a → Q' a) : Sat A' D' p Q' := by
  induction p with
  | ret a => exact hQ a h
  | call c k ih => exact ⟨hD c h.1, fun r hr => ih r (h.2 r (hA c r hr))⟩

theorem mono {p : Prog α} {Q Q' : α → Prop} (h : Sat A D p Q) (hQ : ∀ a, Q a → Q' a) : Sat A D p Q' :=
  h.imp (fun _ _ h => h) (fun _ h => h) hQ

theorem and {p : Prog α} {Q Q' : α → Prop} (h : Sat A D p Q) (h' : Sat A D' p Q') :
    Sat A (fun c => D c ∧ D' c) p (fun a => Q a ∧ Q' a) := by
  induction p with
  | ret a => exact ⟨h, h'⟩
  | call c k ih => exact ⟨⟨h.1, h'.1⟩, fun r hr => ih r (h.2 r hr) (h'.2 r hr)⟩

theorem bind {p : Prog α} {f : α → Prog β} {Q' : α → Prop} {Q : β → Prop}
    (hp : Sat A D p Q') (hf : ∀ a, Q' a → Sat A D (f a) Q) : Sat A D (Prog.bind p f) Q := by
  induction p with
  | ret a => exact hf a hp
  | call c k ih => exact ⟨hp.1, fun r hr => ih r (hp.2 r hr)⟩

/-- `split` on a program is dear when the program is long; the two rules below decompose an `if` syntactically -/
theorem ite {c : Prop} [Decidable c] {p q : Prog α} {Q : α → Prop} (hp : c → Sat A D p Q)
    (hq : ¬c → Sat A D q Q) : Sat A D (if c then p else q) Q := by
  split
  · exact hp ‹_›
  · exact hq ‹_›

theorem dite {c : Prop} [Decidable c] {p : c → Prog α} {q : ¬c → Prog α} {Q : α → Prop}
    (hp : ∀ h, Sat A D (p h) Q) (hq : ∀ h, Sat A D (q h) Q) : Sat A D (dite c p q) Q := by
  split
  · exact hp _
  · exact hq _

theorem top (p : Prog α) : Sat A Top p Top := by
  induction p with
  | ret a => trivial
  | call c k ih => exact ⟨trivial, fun r _ => ih r⟩

/-- soundness: the stretch of history a run appends, if its answers are within the rely, consists of
guaranteed calls and ends in a result satisfying the postcondition -/
theorem runs {p : Prog α} {Q : α → Prop} (hp : Sat A D p Q) {h h' : Hist} {a : α} (hr : Runs p h h' a) :
    ∃ t, h' = h ++ t ∧ ((∀ x ∈ t, A x.1 x.2) → (∀ x ∈ t, D x.1) ∧ Q a) := by
  induction hr with
  | ret a h => exact ⟨[], by simp, fun _ => ⟨fun _ hx => (nomatch hx), hp⟩⟩
  | call c k r h h' a hk ih =>
    obtain ⟨t, ht⟩ := hk.isPrefix
    refine ⟨(c, r) :: t, by rw [← ht]; simp, fun hA => ?_⟩
    obtain ⟨t', ht', h'⟩ := ih (hp.2 r (hA _ List.mem_cons_self))
    obtain rfl : t = t' := List.append_cancel_left (ht.trans ht')
    obtain ⟨hD, hQ⟩ := h' fun x hx => hA x (List.mem_cons_of_mem _ hx)
    exact ⟨fun x hx => (List.mem_cons.mp hx).elim (fun e => e ▸ hp.1) (hD x), hQ⟩

theorem of_run {p : Prog α} {Q : α → Prop} (hp : Sat AnyAnswer D p Q) {a : α} (hr : ∃ h h', Runs p h h' a) : Q a := by
  obtain ⟨h, h', hr⟩ := hr
  obtain ⟨t, _, ht⟩ := hp.runs hr
  exact (ht fun _ _ => trivial).2

theorem _root_.RunsT.calls {p : Prog α} {Q : α → Prop} {t : Hist} {a : α} (hp : Sat AnyAnswer D p Q)
    (h : RunsT p t a) : ∀ x ∈ t, D x.1 := by
  obtain ⟨_, rfl, hq⟩ := hp.runs (h.runs [])
  exact (hq fun _ _ => trivial).1

/-! ## The error monad -/

theorem mbind {p : M α} {f : α → M β} {Q' : Except Err α → Prop} {Q : Except Err β → Prop}
    (hp : Sat A D p Q') (hf : ∀ a, Q' (.ok a) → Sat A D (f a) Q)
    (he : ∀ e, Q' (.error e) → Q (.error e)) : Sat A D (M.bind' p f) Q :=
  bind hp fun r hr => match r with
    | .ok a => hf a hr
    | .error e => he e hr

theorem lift {p : Prog α} {Q : Except Err α → Prop} (hp : Sat A D p fun a => Q (.ok a)) :
    Sat A D (M.lift p) Q :=
  bind hp fun _ ha => ha

theorem mcall {c : Call} {Q : Except Err Resp → Prop} (hc : D c) (hq : ∀ r, A c r → Q (.ok r)) :
    Sat A D (M.call c) Q :=
  lift ⟨hc, hq⟩

theorem ofExcept {x : Except Err α} {Q : Except Err α → Prop} (h : Q x) : Sat A D (M.ofExcept x) Q := by
  cases x <;> exact h

theorem onErr {p : M α} {c : Prog Unit} {Q : Except Err α → Prop} (hp : Sat A D p Q)
    (hc : Sat A D c Top) : Sat A D (M.onErr p c) Q :=
  bind hp fun r hr => match r with
    | .ok _ => hr
    | .error _ => bind hc fun _ _ => hr

/-- a caught error is a value; a fatal one stays an error -/
theorem try' {p : M α} {Q' : Except Err α → Prop} {Q : Except Err (Except Err α) → Prop}
    (hp : Sat A D p Q') (hok : ∀ a, Q' (.ok a) → Q (.ok (.ok a)))
    (hfatal : ∀ e, Q' (.error e) → e.isFatal = true → Q (.error e))
    (hcaught : ∀ e, Q' (.error e) → e.isFatal = false → Q (.ok (.error e))) : Sat A D (M.try' p) Q :=
  bind hp fun r hr => match r with
    | .ok a => hok a hr
    | .error e => ite (hfatal e hr) fun hf => hcaught e hr (Bool.eq_false_iff.mpr hf)

end Sat

/-! ## Postconditions by outcome

`Out V E`: a value satisfying `V` or an error satisfying `E`.  Most facts about the library's programs constrain
what is returned and say nothing of errors: `Ok Q = Out Q Top`, and then the rules need no case for the error. -/

def Out {α : Type} (V : α → Prop) (E : Err → Prop) : Except Err α → Prop
  | .ok a => V a
  | .error e => E e

theorem Out.mono {α : Type} {V V' : α → Prop} {E E' : Err → Prop} (hV : ∀ a, V a → V' a) (hE : ∀ e, E e → E' e) :
    ∀ x, Out V E x → Out V' E' x
  | .ok a => hV a
  | .error e => hE e

abbrev Ok {α : Type} (Q : α → Prop) : Except Err α → Prop := Out Q Top

theorem Ok.top {α : Type} (x : Except Err α) : Ok Top x := by cases x <;> trivial

abbrev SatE {α : Type} (A : Call → Resp → Prop) (D : Call → Prop) (p : M α) (V : α → Prop) (E : Err → Prop) : Prop :=
  Sat A D p (Out V E)

abbrev SatM {α : Type} (A : Call → Resp → Prop) (D : Call → Prop) (p : M α) (Q : α → Prop) : Prop :=
  SatE A D p Q Top

namespace SatE

variable {α β : Type} {A : Call → Resp → Prop} {D : Call → Prop}

theorem pure {a : α} {V : α → Prop} {E : Err → Prop} (h : V a) : SatE A D (Pure.pure a) V E := h

theorem throw {e : Err} {V : α → Prop} {E : Err → Prop} (h : E e) : SatE A D (MonadExcept.throw e) V E := h

theorem bind {p : M α} {f : α → M β} {V' : α → Prop} {V : β → Prop} {E' E : Err → Prop}
    (hp : SatE A D p V' E') (hE : ∀ e, E' e → E e) (hf : ∀ a, V' a → SatE A D (f a) V E) :
    SatE A D (M.bind' p f) V E :=
  Sat.mbind hp hf hE

theorem try' {p : M α} {V : α → Prop} {E : Err → Prop} (hp : SatE A D p V E) :
    SatE A D (M.try' p) (Out V fun e => E e ∧ e.isFatal = false) fun e => E e ∧ e.isFatal = true :=
  Sat.try' hp (fun _ h => h) (fun _ => And.intro) fun _ => And.intro

/-- `p`, cleanup on either outcome, then `p`'s outcome -/
theorem try_then {p : M α} {c : Prog β} {V : α → Prop} {E : Err → Prop} (hp : SatE A D p V E) (hc : Sat A D c Top) :
    SatE A D (M.bind' (M.try' p) fun r => M.bind' (M.lift c) fun _ => M.ofExcept r) V E :=
  bind (try' hp) (fun _ h => h.1) fun r hr =>
    bind (V' := Top) (E' := fun _ => False) (Sat.lift hc) nofun fun _ _ =>
      Sat.ofExcept (Out.mono (fun _ h => h) (fun _ h => h.1) r hr)

end SatE

namespace SatM

variable {α β : Type} {A : Call → Resp → Prop} {D : Call → Prop}

theorem pure {a : α} {Q : α → Prop} (h : Q a) : SatM A D (Pure.pure a) Q := SatE.pure h

theorem throw {e : Err} {Q : α → Prop} : SatM A D (MonadExcept.throw e) Q := SatE.throw trivial

/-- for the leaves `ret x` with `x` not known to be a value or an error -/
theorem ret_top (x : Except Err α) : SatM A D (Prog.ret x) Top := Ok.top x

theorem bind {p : M α} {f : α → M β} {Q' : α → Prop} {Q : β → Prop}
    (hp : SatM A D p Q') (hf : ∀ a, Q' a → SatM A D (f a) Q) : SatM A D (M.bind' p f) Q :=
  SatE.bind hp (fun _ h => h) hf

theorem lift {p : Prog α} {Q : α → Prop} (hp : Sat A D p Q) : SatM A D (M.lift p) Q := Sat.lift hp

theorem call {c : Call} {Q : Resp → Prop} (hc : D c) (hq : ∀ r, A c r → Q r) : SatM A D (M.call c) Q :=
  Sat.mcall hc hq

theorem ofExcept {x : Except Err α} {Q : α → Prop} (h : Ok Q x) : SatM A D (M.ofExcept x) Q := Sat.ofExcept h

theorem onErr {p : M α} {c : Prog Unit} {Q : α → Prop} (hp : SatM A D p Q) (hc : Sat A D c Top) :
    SatM A D (M.onErr p c) Q := Sat.onErr hp hc

theorem try' {p : M α} {Q : α → Prop} (hp : SatM A D p Q) : SatM A D (M.try' p) (Ok Q) :=
  Sat.mono (SatE.try' hp) (Out.mono (Out.mono (fun _ h => h) fun _ _ => trivial) fun _ _ => trivial)

theorem isOk {p : M α} {Q : α → Prop} (hp : SatM A D p Q) : SatM A D (M.isOk p) Top :=
  bind (try' hp) fun r _ => by cases r <;> exact trivial

/-- cleanup, then the error -/
theorem lift_then_throw {p : Prog β} {e : Err} {Q : α → Prop} (hp : Sat A D p Top) :
    SatM A D (M.bind' (M.lift p) fun _ => MonadExcept.throw e) Q :=
  bind (lift hp) fun _ _ => throw

theorem try_then {p : M α} {c : Prog β} {Q : α → Prop} (hp : SatM A D p Q) (hc : Sat A D c Top) :
    SatM A D (M.bind' (M.try' p) fun r => M.bind' (M.lift c) fun _ => M.ofExcept r) Q :=
  SatE.try_then hp hc

end SatM

/-! From here on `Sat` is opened by its rules only.  As a reducible recursion over the program it would be
evaluated down to the first call whenever a goal `Sat A D p Q` is elaborated against, which for the long
programs of the library costs more than the proofs themselves. -/
attribute [irreducible] Sat
