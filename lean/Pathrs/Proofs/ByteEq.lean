import Pathrs.Basic

/-!
Instance search finds `LawfulBEq UInt8` (hence `LawfulBEq Bytes`, which every `List` lemma about `lookup`, `erase`,
`contains` or `∈` on paths and names asks for) only after trying the order classes of `UInt8`; found once here, it is
a direct hit everywhere above.
-/

instance : LawfulBEq UInt8 := inferInstance
