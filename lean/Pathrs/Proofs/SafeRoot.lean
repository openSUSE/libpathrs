import Pathrs.Proofs.Lookups
import Pathrs.Proofs.Safe
import Pathrs.Proofs.Parent

/-!
# `remove_all`, `mkdir_all`'s creating loop and the `Root` operations make only disciplined calls

The two recursive programs are passed over once for any guarantee that admits their calls (`Disc` for C05, `Mut`
for C03); the `Root` operations for `Disc`, with the lookups they start with taken from `Lookups.lean`.
-/

open K

/-- names that cannot denote the directory itself or its parent -/
def ProperName (name : Bytes) : Prop := single name ∧ name ≠ Path.dot ∧ name ≠ Path.dotdot

variable {A : Call → Resp → Prop} {I : Fd → Prop} {D : Call → Prop}

/-- what a guarantee has to admit for `remove_all`: removing and opening proper names below, and scanning,
directories it was given or opened -/
structure RemoveAllOk (I : Fd → Prop) (D : Call → Prop) : Prop where
  unlinkat : ∀ {dir name} flags, I dir → ProperName name → D (.unlinkat dir name flags)
  openat : ∀ {dir name}, I dir → ProperName name →
    D (.openat dir name (O_DIRECTORY ||| O_NOFOLLOW ||| O_CLOEXEC ||| O_NOCTTY) 0)
  dirOpen : ∀ {fd}, I fd → D (.dirOpen fd)
  dirNext : ∀ {fd}, I fd → D (.dirNext fd)

namespace RemoveAll

theorem ignoreEnoent_sat {p : M Unit} (hp : SatM A D p Top) : SatM A D (ignoreEnoent p) Top :=
  hp.try'.bind fun _ _ => by
    split
    · exact SatM.pure trivial
    · split <;> exact SatM.ret_top _
    · exact SatM.throw

theorem removeInode_sat (P : Pass A I D) {dir : Fd} {name : Bytes} (hc : ∀ flags, D (.unlinkat dir name flags)) :
    SatM A D (removeInode dir name) Top :=
  (Sys.unlinkat_sat P (hc _)).try'.bind fun _ _ => by
    split
    · exact SatM.pure trivial
    · exact (Sys.unlinkat_sat P (hc _)).try'.bind fun _ _ => by
        split
        · exact SatM.pure trivial
        · split <;> exact SatM.ret_top _

theorem nextEntry_sat {fd : Fd} (hc : D (.dirNext fd)) (n : Nat) : SatM A D (nextEntry fd n) Top := by
  induction n with
  | zero => exact SatM.throw
  | succ n ih =>
    exact (SatM.call hc fun _ _ => trivial).bind fun _ _ => by
      split
      · split
        · exact ih
        · exact SatM.pure trivial
      all_goals exact SatM.ret_top _

variable (P : Pass A I D) (R : RemoveAllOk I D)
include P R

omit P in
theorem scan_sat {rm : Fd → Bytes → M Unit} {subdir : Fd} (sf : Nat) (hs : I subdir)
    (hrm : ∀ name, SatM A D (rm subdir name) Top) (n : Nat) : SatM A D (scan rm subdir sf n) Top := by
  have children : ∀ n first, SatM A D (children rm subdir sf first n) Top := fun n => by
    induction n with
    | zero => exact fun _ => SatM.throw
    | succ n ih =>
      intro first
      cases first with
      | fin => exact SatM.pure trivial
      | err e => exact SatM.throw
      | entry child =>
        exact (ignoreEnoent_sat (hrm child)).bind fun _ _ => (nextEntry_sat (R.dirNext hs) sf).bind fun nxt _ => ih nxt
  induction n with
  | zero => exact SatM.throw
  | succ n ih =>
    exact (SatM.call (R.dirOpen hs) fun _ _ => trivial).bind fun _ _ => by
      split
      · exact (nextEntry_sat (R.dirNext hs) sf).bind fun first _ => by
          split
          · exact SatM.pure trivial
          · exact (children _ _).bind fun _ _ => ih
      · split <;> exact SatM.ret_top _
      · exact SatM.throw

/-- **every `unlinkat` and every directory open of `remove_all` names a proper component** below the directory
it was given or one it opened that way, and it makes no other call but scans of those -/
theorem removeAll_sat (fuel : Nat) {dir : Fd} (name : Bytes) (hd : I dir) :
    SatM A D (removeAll fuel dir name) Top := by
  induction fuel generalizing dir name with
  | zero => exact SatM.throw
  | succ n ih =>
    refine Sat.ite (fun _ => SatM.throw) fun hslash => Sat.ite (fun _ => SatM.throw) fun hdot => ?_
    have hn : ProperName name := ⟨Bool.eq_false_iff.mpr hslash, fun h => hdot (Or.inl h), fun h => hdot (Or.inr h)⟩
    have remove : SatM A D (ignoreEnoent (removeInode dir name)) Top :=
      ignoreEnoent_sat (removeInode_sat P fun _ => R.unlinkat _ hd hn)
    refine remove.isOk.bind fun removed _ => Sat.ite (fun _ => SatM.pure trivial) fun _ => ?_
    have openSubdir : SatM A D (openSubdir dir name) fun o => ∀ fd, o = some fd → I fd :=
      (Sys.openat_sat P fun _ => R.openat hd hn).try'.bind fun r hr => by
        split
        · exact SatM.pure fun _ h => Option.some.inj h ▸ hr
        · exact Sat.ite (fun _ => SatM.pure fun _ h => nomatch h) fun _ => SatM.throw
        · exact SatM.throw
    refine openSubdir.bind fun sub hsub => ?_
    cases sub with
    | none => exact SatM.pure trivial
    | some subdir =>
      have close := Sys.close_sat P subdir
      refine ((scan_sat R n (hsub _ rfl) (fun nm => ih nm (hsub _ rfl)) n).onErr close).bind fun _ _ => ?_
      exact remove.try_then close

end RemoveAll

theorem Root.mkdirTolerant_sat (P : Pass A I D) {cur : Fd} {part : Bytes} {perm : Nat} (hc : D (.mkdirat cur part perm)) :
    SatM A D (Root.mkdirTolerant cur part perm) Top :=
  (Sys.mkdirat_sat P hc).try'.bind fun _ _ => by
    split
    · exact SatM.pure trivial
    · split <;> exact SatM.ret_top _

/-- **the creating loop of `mkdir_all`**: every `mkdirat` and every directory open names the next of the given
components (`N`: what is known of them) below the directory reached so far -/
theorem Root.mkdirLoop_sat (P : Pass A I D) {N : Bytes → Prop} {perm : Nat}
    (hmk : ∀ {cur part}, I cur → single part → N part → D (.mkdirat cur part perm))
    (hop : ∀ {cur part}, I cur → single part → N part →
      D (.openat cur part (O_NOFOLLOW ||| O_DIRECTORY ||| O_NOFOLLOW ||| O_CLOEXEC ||| O_NOCTTY) 0))
    {parts : List Bytes} (hp : ∀ p ∈ parts, N p) {cur : Fd} (hc : I cur) :
    SatM A D (Root.mkdirLoop perm cur parts) I := by
  induction parts generalizing cur with
  | nil => exact SatM.pure hc
  | cons part rest ih =>
    have close := Sys.close_sat P cur
    refine Sat.ite (fun _ => SatM.lift_then_throw close) fun hslash => ?_
    have hs : single part := Bool.eq_false_iff.mpr hslash
    have hn := hp part List.mem_cons_self
    refine ((Root.mkdirTolerant_sat P (hmk hc hs hn)).onErr close).bind fun _ _ => ?_
    refine ((Sys.openat_sat P fun _ => hop hc hs hn).onErr close).bind fun next hnext => ?_
    exact (SatM.lift close).bind fun _ _ => ih (fun p h => hp p (List.mem_cons_of_mem _ h)) hnext

/-! ## The discipline of C05 -/

variable {b nc : Bool}

theorem SatM.disc {α : Type} {p : M α} {Q : α → Prop} (h : SatM Sane (LookupCall b nc (0 ≤ ·)) p Q) :
    SatM Sane (Disc b) p Q :=
  Sat.imp h (fun _ _ h => h) (fun _ => LookupCall.disc) fun _ h => h

theorem lookupPass (nc : Bool) : Pass Sane (0 ≤ ·) (LookupCall b nc (0 ≤ ·)) := G.pass LookupCall.diag

theorem discRemoveAllOk : RemoveAllOk (0 ≤ ·) (Disc b) where
  unlinkat := fun _ hd hn => ⟨hd, hn.1⟩
  openat := fun hd hn => Or.inl ⟨hd, hn.1, hasAll_forced _⟩
  dirOpen := fun h => h
  dirNext := fun h => h

namespace Root

variable (env : Env) (root : Root) (hr : 0 ≤ root.fd) (hp : 0 ≤ env.proc.fd)
include hr hp

theorem resolveParent_disc (path : Bytes) :
    SatM Sane (Disc b) (resolveParent env root path) (fun r => 0 ≤ r.1 ∧ ∀ nm, r.2 = some nm → single nm) := by
  unfold resolveParent
  refine (pathSplit_sat path).bind fun ⟨parent, name⟩ hpr => ?_
  exact (Resolver.resolve_sat (lookupPass true) _ parent false hr hp).disc.bind fun dir hdir => SatM.pure ⟨hdir, hpr⟩

theorem withParent_disc {α : Type} (path : Bytes) (body : Fd → Bytes → M α) {Q : α → Prop}
    (hbody : ∀ dir name, 0 ≤ dir → single name → SatM Sane (Disc b) (body dir name) Q) :
    SatM Sane (Disc b) (withParent env root path body) Q :=
  (resolveParent_disc env root hr hp path).bind fun ⟨dir, name⟩ ho => by
    have close := Sys.close_sat (discPass b) dir
    cases name with
    | none => exact SatM.lift_then_throw close
    | some name => exact (hbody dir _ ho.1 (ho.2 _ rfl)).try_then close

theorem resolve_disc (path : Bytes) (nofollow : Bool) : SatM Sane (Disc b) (resolve env root path nofollow) (0 ≤ ·) :=
  (Resolver.resolve_sat (lookupPass true) _ path nofollow hr hp).disc

theorem openSubpath_disc (path : Bytes) (flags : Nat) :
    SatM Sane (Disc true) (openSubpath env root path flags) (0 ≤ ·) :=
  (Resolver.openOnce_sat (lookupPass true) _ path flags hr hp).disc

theorem readlink_disc (path : Bytes) : SatM Sane (Disc b) (readlink env root path) Top :=
  (resolve_disc env root hr hp path true).bind fun link hl =>
    (Sys.readlinkat_sat (discPass b) fun _ => ⟨hl, rfl⟩).try_then (Sys.close_sat (discPass b) link)

theorem create_disc (path : Bytes) (ty : InodeType) : SatM Sane (Disc b) (create env root path ty) Top :=
  withParent_disc env root hr hp path (createCall env root · · ty) fun dir name hd hn => by
    have P := discPass b
    cases ty with
    | file perm => exact Sys.mknodat_sat P ⟨hd, hn⟩
    | directory perm => exact Sys.mkdirat_sat P ⟨hd, hn⟩
    | symlink target => exact Sys.symlinkat_sat P ⟨hd, hn⟩
    | fifo perm => exact Sys.mknodat_sat P ⟨hd, hn⟩
    | charDev perm dev => exact Sys.mknodat_sat P ⟨hd, hn⟩
    | blockDev perm dev => exact Sys.mknodat_sat P ⟨hd, hn⟩
    | hardlink target =>
      -- the body is spelled out: to infer it the unifier would compare the two `do` blocks term by term
      exact withParent_disc env root hr hp target (Sys.linkat · · dir name 0) fun _ _ ho hon =>
        Sys.linkat_sat P ⟨ho, hd, hon, hn, rfl⟩

theorem createFile_disc (path : Bytes) (flags perm : Nat) :
    SatM Sane (Disc b) (createFile env root path flags perm) (0 ≤ ·) :=
  withParent_disc env root hr hp path (createFileOpen · · flags perm) fun _ _ hd hn =>
    Sat.ite (fun _ => SatM.throw) fun _ => Sys.openat_sat (discPass b) fun _ => Or.inl ⟨hd, hn, hasAll_forced _⟩

theorem removeInode_disc (path : Bytes) (isDir : Bool) : SatM Sane (Disc b) (removeInode env root path isDir) Top :=
  withParent_disc env root hr hp path (Sys.unlinkat · · (if isDir then AT_REMOVEDIR else 0)) fun _ _ hd hn =>
    Sys.unlinkat_sat (discPass b) ⟨hd, hn⟩

theorem removeAll_disc (path : Bytes) : SatM Sane (Disc b) (removeAll env root path) Top :=
  withParent_disc env root hr hp path (RemoveAll.removeAll removeAllFuel) fun _ name hd _ =>
    RemoveAll.removeAll_sat (discPass b) discRemoveAllOk _ name hd

theorem rename_disc (src dst : Bytes) (rflags : Nat) : SatM Sane (Disc b) (rename env root src dst rflags) Top :=
  (resolveParent_disc env root hr hp src).bind fun ⟨srcDir, srcName⟩ hs => by
    have P := discPass b
    cases srcName with
    | none => exact SatM.lift_then_throw (Sys.close_sat P _)
    | some srcName =>
      refine ((resolveParent_disc env root hr hp dst).onErr (Sys.close_sat P _)).bind fun ⟨dstDir, dstName⟩ hd => ?_
      cases dstName with
      | none => exact SatM.lift_then_throw (Sys.closeAll_sat P _)
      | some dstName =>
        have hc : 0 ≤ srcDir ∧ 0 ≤ dstDir ∧ single srcName ∧ single dstName := ⟨hs.1, hd.1, hs.2 _ rfl, hd.2 _ rfl⟩
        exact (Sys.renameat2_sat P hc hc).try'.bind fun _ hres =>
          (SatM.lift (Sys.close_sat P _)).bind fun _ _ => (SatM.lift (Sys.close_sat P _)).bind fun _ _ => SatM.ofExcept hres

theorem mkdirAll_disc (path : Bytes) (perm : Nat) : SatM Sane (Disc true) (mkdirAll env root path perm) (0 ≤ ·) := by
  have P := discPass true
  refine Sat.ite (fun _ => SatM.throw) fun _ => Sat.ite (fun _ => SatM.throw) fun _ => Sat.ite (fun _ => SatM.throw) fun _ => ?_
  have target : SatM Sane (Disc true) (partialTarget env root path) fun pr => 0 ≤ pr.1 :=
    (Resolver.resolvePartial_sat (lookupPass true) _ path false hr hp).disc.bind fun l hl => by
      cases l with
      | complete _ => exact SatM.pure hl
      | part _ _ _ => exact Sat.ite (fun _ => SatM.pure hl) fun _ => SatM.lift_then_throw (Sys.close_sat P _)
  refine target.bind fun ⟨handle, remaining⟩ hh => ?_
  have cleanup := (Sys.freeze_sat P handle).bind fun _ _ => Sys.close_sat P handle
  refine ((Procfs.reopen_sat (lookupPass true) O_DIRECTORY hh hp).disc.onErr cleanup).bind fun cur hcur => ?_
  refine Sat.ite (fun _ => SatM.lift_then_throw (Sys.closeAll_sat P _)) fun _ => ?_
  refine SatM.try_then (Q := (0 ≤ ·)) ?_ (Sys.close_sat P _)
  exact mkdirLoop_sat P (N := Top) (fun hc hs _ => ⟨hc, hs⟩)
    (fun hc hs _ => Or.inl ⟨hc, hs, hasAll_forced _⟩) (fun _ _ => trivial) hcur

end Root
