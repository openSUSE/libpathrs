import Pathrs.Proofs.RmAll
import Pathrs.Proofs.SafeRoot

/-!
# `remove_all` converges while others remove (rely/guarantee)

The tree of `RmAll.lean`, with an environment that moves between any two system calls of the program: it may remove
entries anywhere (what any number of other `remove_all` callers, or `rm -rf`, do), never add or change one.  A run is
a trace of the program (`RunsT`, Runs.lean) that is `ValidR`: its answers are the tree's, with such steps interleaved.

Entries only disappear, whoever acts; so what is absent or empty stays so and `WF` survives (`RmAll.lean`), and what
has to be followed along a run is the answers, and the private state of the directory streams.  Which streams a
history touched and what it removed itself is read off its calls (`Calls`, `Tr`): for the straight-line parts from
the pass over the program under any answers, for the loops by composition.
-/

open K RmAll

namespace RmAllRace

/-- the rely: entries only disappear (each directory's listing becomes a sublist), kinds and the private
state of open directory streams are not touched -/
structure Removes (s s' : RFS) : Prop where
  sub : ∀ d, (s'.entries d).Sublist (s.entries d)
  kinds : s'.isDir = s.isDir
  streams : s'.streams = s.streams

/-- a history the tree could have produced, with environment steps satisfying the rely before every call and at
the end -/
inductive ValidR : RFS → Hist → RFS → Prop where
  | nil {s s'} : Removes s s' → ValidR s [] s'
  | cons {s s1 s' c r t} : Removes s s1 → r = s1.answer c → ValidR (s1.effect c) t s' → ValidR s ((c, r) :: t) s'

/-- the removals the program itself performed: `unlinkat` calls the kernel acknowledged -/
def ownRemovals : Hist → List (Fd × Bytes)
  | [] => []
  | (.unlinkat d n _, .unit) :: t => (d, n) :: ownRemovals t
  | _ :: t => ownRemovals t

/-! ## entries only disappear, whoever acts -/

theorem Removes.refl (s : RFS) : Removes s s := ⟨fun _ => List.Sublist.refl _, rfl, rfl⟩

theorem Removes.trans {a b c : RFS} (h1 : Removes a b) (h2 : Removes b c) : Removes a c :=
  ⟨fun d => (h2.sub d).trans (h1.sub d), h2.kinds.trans h1.kinds, h2.streams.trans h1.streams⟩

theorem Removes.only {a b : RFS} (h : Removes a b) : OnlyRemoved a b := ⟨h.sub, h.kinds⟩

/-- whatever the call, entries only disappear -/
theorem effect_only (s : RFS) (c : Call) : OnlyRemoved s (s.effect c) := by
  -- by the clauses of `effect`: an `unlinkat` answered `unit`, one refused, `dirOpen`, `dirNext`, any other call
  fun_cases RFS.effect s c with
  | case1 d n => exact .removeEntry s d n
  | case3 | case4 => exact ⟨fun _ => List.Sublist.refl _, rfl⟩
  | case2 | case5 => exact .refl s

/-! ## what a history did, read off its calls

`Calls S U`: scanning calls only on the directories in `S`, `unlinkat` only of the entries in `U`.  For the
wrappers and the straight-line parts of `remove_all` this is a fact about the program under any answers (the pass
of `SafeRoot.lean`); it bounds the program's own removals (`Tr.own`) and says which directory streams a history left
alone (`ValidR.streams`). -/

/-- the directory whose stream a call moves -/
def scanned : Call → Option Fd
  | .dirOpen d | .dirNext d => some d
  | _ => none

/-- the entry a call asks to remove -/
def unlinked : Call → Option (Fd × Bytes)
  | .unlinkat d n _ => some (d, n)
  | _ => none

theorem streams_effect {s : RFS} {c : Call} {d : Fd} (h : scanned c ≠ some d) :
    (s.effect c).streams d = s.streams d := by
  -- by the clauses of `effect`: only `dirOpen` (the third) and `dirNext` (the fourth) write a stream
  fun_cases RFS.effect s c with
  | case3 d' | case4 d' => exact if_neg fun e => h (by rw [e]; rfl)
  | _ => rfl

def Calls (S : Fd → Prop) (U : Fd × Bytes → Prop) (c : Call) : Prop :=
  (∀ d, scanned c = some d → S d) ∧ ∀ x, unlinked c = some x → U x

section
variable {S S' : Fd → Prop} {U U' : Fd × Bytes → Prop} {c : Call} {d : Fd}

theorem Calls.other (h1 : scanned c = none) (h2 : unlinked c = none) : Calls S U c :=
  ⟨fun _ h => (nomatch h1 ▸ h), fun _ h => (nomatch h2 ▸ h)⟩

theorem Calls.dirOpen (h : S d) : Calls S U (.dirOpen d) :=
  ⟨fun _ e => (by cases e; exact h), fun _ e => (nomatch e)⟩

theorem Calls.dirNext (h : S d) : Calls S U (.dirNext d) :=
  ⟨fun _ e => (by cases e; exact h), fun _ e => (nomatch e)⟩

theorem Calls.unlinkat {n : Bytes} {fl : Nat} (h : U (d, n)) : Calls S U (.unlinkat d n fl) :=
  ⟨fun _ e => (nomatch e), fun _ e => (by cases e; exact h)⟩

theorem Calls.mono (hS : ∀ d, S d → S' d) (hU : ∀ x, U x → U' x) (h : Calls S U c) : Calls S' U' c :=
  ⟨fun d e => hS d (h.1 d e), fun x e => hU x (h.2 x e)⟩

end

theorem callsPass (S : Fd → Prop) (U : Fd × Bytes → Prop) : Pass AnyAnswer Top (Calls S U) :=
  Pass.any ⟨.other rfl rfl, .other rfl rfl, fun _ _ => .other rfl rfl, fun _ _ => .other rfl rfl,
    fun _ => .other rfl rfl, fun _ => .other rfl rfl⟩

def Tr (S : Fd → Prop) (U : Fd × Bytes → Prop) (t : Hist) : Prop := ∀ x ∈ t, Calls S U x.1

section
variable {S S' : Fd → Prop} {U U' : Fd × Bytes → Prop} {t t1 t2 : Hist}

theorem Tr.nil : Tr S U [] := fun _ hx => nomatch hx

theorem Tr.cons {c : Call} {r : Resp} (hc : Calls S U c) (h : Tr S U t) : Tr S U ((c, r) :: t) := fun x hx =>
  (List.mem_cons.mp hx).elim (fun e => e ▸ hc) (h x)

theorem Tr.append (h1 : Tr S U t1) (h2 : Tr S U t2) : Tr S U (t1 ++ t2) := fun x hx =>
  (List.mem_append.mp hx).elim (h1 x) (h2 x)

theorem Tr.mono (h : Tr S U t) (hS : ∀ d, S d → S' d) (hU : ∀ x, U x → U' x) : Tr S' U' t := fun x hx =>
  (h x hx).mono hS hU

theorem Tr.own (h : Tr S U t) : ∀ y ∈ ownRemovals t, U y := by
  fun_induction ownRemovals t with
  | case1 => exact fun _ hy => nomatch hy
  | case2 d n fl t ih =>
    intro y hy
    rcases List.mem_cons.mp hy with rfl | hy
    · exact (h _ List.mem_cons_self).2 _ rfl
    · exact ih (fun x hx => h x (List.mem_cons_of_mem _ hx)) y hy
  | case3 x t _ ih => exact ih fun x hx => h x (List.mem_cons_of_mem _ hx)

end

theorem ValidR.only {s s' : RFS} {t : Hist} (h : ValidR s t s') : OnlyRemoved s s' := by
  induction h with
  | nil hR => exact hR.only
  | cons hR _ _ ih => exact hR.only.trans ((effect_only _ _).trans ih)

/-- a history leaves alone the stream of a directory it does not scan -/
theorem ValidR.streams {S : Fd → Prop} {U : Fd × Bytes → Prop} {s s' : RFS} {t : Hist} (h : ValidR s t s')
    (ht : Tr S U t) {d : Fd} (hd : ¬ S d) : s'.streams d = s.streams d := by
  induction h with
  | nil hR => rw [hR.streams]
  | @cons s s1 s' c r t hR _ _ ih =>
    rw [ih fun x hx => ht x (List.mem_cons_of_mem _ hx),
      streams_effect fun e => hd ((ht (c, r) List.mem_cons_self).1 d e), hR.streams]

/-- entries only disappeared, kinds are unchanged, and the directory streams of objects of rank `≥ k` are
untouched: what `ValidR.only` and `ValidR.streams` say together of a history that scans only directories of rank
below `k` (the proofs use the two separately) -/
structure Evo (rank : Fd → Nat) (k : Nat) (s s' : RFS) : Prop where
  sub : ∀ d, (s'.entries d).Sublist (s.entries d)
  kinds : s'.isDir = s.isDir
  streams : ∀ d, k ≤ rank d → s'.streams d = s.streams d

theorem Evo.refl (rank : Fd → Nat) (k : Nat) (s : RFS) : Evo rank k s s :=
  ⟨fun _ => List.Sublist.refl _, rfl, fun _ _ => rfl⟩

/-! ## runs against the tree with the environment moving -/

theorem ValidR.split {s s' : RFS} {t1 t2 : Hist} (h : ValidR s (t1 ++ t2) s') :
    ∃ sm, ValidR s t1 sm ∧ ValidR sm t2 s' := by
  induction t1 generalizing s with
  | nil => exact ⟨s, .nil (Removes.refl s), h⟩
  | cons x t ih =>
    cases h with
    | cons hR hr hv =>
      obtain ⟨sm, h1, h2⟩ := ih hv
      exact ⟨sm, .cons hR hr h1, h2⟩

theorem ValidR.prepend {s0 s s' : RFS} {t : Hist} (hR : Removes s0 s) (h : ValidR s t s') : ValidR s0 t s' := by
  cases h with
  | nil h0 => exact .nil (hR.trans h0)
  | cons h0 hr hv => exact .cons (hR.trans h0) hr hv

theorem ValidR.answers {s s' : RFS} {t : Hist} (h : ValidR s t s') : ∀ x ∈ t, ∃ s1, x.2 = RFS.answer s1 x.1 := by
  induction h with
  | nil _ => intro x hx; cases hx
  | cons hR hr hv ih =>
    intro x hx
    rcases List.mem_cons.mp hx with rfl | hx
    · exact ⟨_, hr⟩
    · exact ih x hx

/-- `p`, started in `s`, produced the history `t` and the result `r`, and the tree ended as `s'` -/
def Run {α : Type} (p : Prog α) (s : RFS) (t : Hist) (r : α) (s' : RFS) : Prop := RunsT p t r ∧ ValidR s t s'

section
variable {α β : Type} {s s' : RFS} {t : Hist}

theorem Run.ret_inv {a b : α} (h : Run (.ret a) s t b s') : t = [] ∧ b = a ∧ Removes s s' := by
  obtain ⟨hr, hv⟩ := h
  obtain ⟨rfl, rfl⟩ := RunsT.ret_inv hr
  cases hv with
  | nil hR => exact ⟨rfl, rfl, hR⟩

theorem Run.call_inv {c : Call} {k : Resp → Prog α} {a : α} (h : Run (.call c k) s t a s') :
    ∃ s1 t', Removes s s1 ∧ t = (c, s1.answer c) :: t' ∧ Run (k (s1.answer c)) (s1.effect c) t' a s' := by
  obtain ⟨hr, hv⟩ := h
  obtain ⟨r, t', rfl, hk⟩ := RunsT.call_inv hr
  cases hv with
  | @cons _ s1 _ _ _ _ hR hresp hrest =>
    subst hresp
    exact ⟨s1, t', hR, rfl, hk, hrest⟩

theorem Run.mcall_inv {c : Call} {k : Resp → M α} {r : Except Err α} (h : Run (M.bind' (M.call c) k) s t r s') :
    ∃ s1 t', Removes s s1 ∧ t = (c, s1.answer c) :: t' ∧ Run (k (s1.answer c)) (s1.effect c) t' r s' :=
  Run.call_inv h

theorem Run.bind_inv {p : Prog α} {f : α → Prog β} {b : β} (h : Run (Prog.bind p f) s t b s') :
    ∃ t1 t2 a sm, t = t1 ++ t2 ∧ Run p s t1 a sm ∧ Run (f a) sm t2 b s' := by
  obtain ⟨hr, hv⟩ := h
  obtain ⟨t1, t2, a, rfl, h1, h2⟩ := RunsT.bind_inv hr
  obtain ⟨sm, hv1, hv2⟩ := hv.split
  exact ⟨t1, t2, a, sm, rfl, ⟨h1, hv1⟩, ⟨h2, hv2⟩⟩

theorem Run.mbind_inv' {p : M α} {f : α → M β} {r : Except Err β} (h : Run (M.bind' p f) s t r s') :
    ∃ t1 t2 x sm, t = t1 ++ t2 ∧ Run p s t1 x sm ∧
      Run (match x with | .ok a => f a | .error e => Prog.ret (.error e)) sm t2 r s' :=
  Run.bind_inv h

theorem Run.try_inv {p : M α} {r : Except Err (Except Err α)} (h : Run (M.try' p) s t r s') :
    ∃ x, Run p s t x s' ∧
      ((∃ a, x = .ok a ∧ r = .ok (.ok a)) ∨
       (∃ e, x = .error e ∧ ((e.isFatal = true ∧ r = .error e) ∨ (e.isFatal = false ∧ r = .ok (.error e))))) := by
  obtain ⟨hr, hv⟩ := h
  obtain ⟨x, hx, hc⟩ := RunsT.try_inv hr
  exact ⟨x, ⟨hx, hv⟩, hc⟩

theorem Run.onErr_ok {α : Type} {p : M α} {cl : Prog Unit} {s s' : RFS} {t : Hist} {r : Except Err α}
    (h : Run (M.onErr p cl) s t r s') :
    ∃ t1 t2 x sm, t = t1 ++ t2 ∧ Run p s t1 x sm ∧ (∀ a, x = .ok a → t2 = [] ∧ r = .ok a ∧ Removes sm s') := by
  unfold M.onErr at h
  obtain ⟨t1, t2, x, sm, rfl, h1, h2⟩ := Run.bind_inv h
  refine ⟨t1, t2, x, sm, rfl, h1, ?_⟩
  intro a ha
  subst ha
  simp only [] at h2
  exact Run.ret_inv h2

theorem Run.map_inv {p : Prog α} {f : α → β} {b : β} (h : Run (Prog.bind p fun a => .ret (f a)) s t b s') :
    ∃ a, Run p s t a s' ∧ b = f a :=
  (RunsT.map_inv h.1).imp fun _ ha => ⟨⟨ha.1, h.2⟩, ha.2⟩

theorem Run.ofExcept_inv {x r : Except Err α} (h : Run (M.ofExcept x) s t r s') : t = [] ∧ r = x ∧ Removes s s' := by
  cases x <;> exact Run.ret_inv h

end

section
variable {rank : Fd → Nat} {s s' : RFS} {t : Hist} {d dir c : Fd} {n name : Bytes} {fl : Nat}

/-- what the program can do at all bounds what its history did -/
theorem Run.tr {α : Type} {S : Fd → Prop} {U : Fd × Bytes → Prop} {p : Prog α} {Q : α → Prop} {r : α}
    (hp : Sat AnyAnswer (Calls S U) p Q) (h : Run p s t r s') : Tr S U t :=
  h.1.calls hp

/-! ## the first and the last attempt: `removeInode` -/

theorem tryUnlinkat_run {r : Except Err (Except Err Unit)}
    (hd : 0 ≤ d) (h : Run (M.try' (Sys.unlinkat d n fl)) s t r s') :
    ∃ s1, Removes s s1 ∧ OnlyRemoved (s1.effect (.unlinkat d n fl)) s' ∧
      ((s1.answer (.unlinkat d n fl) = .unit ∧ r = .ok (.ok ())) ∨
       ∃ e, s1.answer (.unlinkat d n fl) = .err e ∧ r = .ok (.error (.os e))) := by
  rw [M.try'_eq, Sys.unlinkat_eq hd, Sys.unitCall, M.bind_def] at h
  obtain ⟨_, hx, rfl⟩ := Run.map_inv h
  obtain ⟨s1, td, hR1, rfl, hdisp⟩ := Run.mcall_inv hx
  refine ⟨s1, hR1, hdisp.2.only, ?_⟩
  rcases answer_unlinkat_cases s1 d n fl with ha | ⟨e, ha⟩
  · rw [ha] at hdisp
    exact .inl ⟨ha, by rw [(Run.ret_inv hdisp).2.1]; rfl⟩
  · rw [ha] at hdisp
    exact .inr ⟨e, ha, by rw [hdisp.1.failWith_result]; rfl⟩

theorem gone {s1 : RFS} (ha : s1.answer (.unlinkat d n fl) = .unit)
    (h : OnlyRemoved (s1.effect (.unlinkat d n fl)) s') : s'.child d n = none := by
  rw [effect_unlinkat_unit ha] at h
  exact absent_stable h (child_removeEntry _ _ _)

/-- `remove_inode` ends well or with `ENOENT`, and then the entry is absent; or with `ENOTEMPTY`, and then it was a
directory that was not empty.  (`EISDIR` from the `unlinkat` and `ENOTDIR` from the `rmdir` cannot both be
answered: kinds do not change.) -/
theorem removeInode_run {r : Except Err Unit}
    (hw : WF s rank) (hd : 0 ≤ dir) (h : Run (RemoveAll.removeInode dir name) s t r s') :
    (r = .ok () ∧ s'.child dir name = none) ∨ (r = .error (.os ENOENT) ∧ s'.child dir name = none) ∨
    (r = .error (.os ENOTEMPTY) ∧ ∃ c, s.child dir name = some c ∧ s.isDir c = true ∧ s.entries c ≠ []) := by
  unfold RemoveAll.removeInode at h
  simp only [M.bind_def] at h
  obtain ⟨t1, t2, x, sm, rfl, h1, h2⟩ := Run.mbind_inv' h
  obtain ⟨s1, hR1, hS1, ⟨ha, rfl⟩ | ⟨e, ha, rfl⟩⟩ := tryUnlinkat_run hd h1
  · exact .inl ⟨(Run.ret_inv h2).2.1, gone ha (hS1.trans h2.2.only)⟩
  · obtain ⟨t3, t4, y, sn, rfl, h3, h4⟩ := Run.mbind_inv' h2
    obtain ⟨s2, hR3, hS2, ⟨ha2, rfl⟩ | ⟨e2, ha2, rfl⟩⟩ := tryUnlinkat_run hd h3
    · exact .inl ⟨(Run.ret_inv h4).2.1, gone ha2 (hS2.trans h4.2.only)⟩
    · -- both attempts refused: what the second one saw decides
      rw [effect_unlinkat_err ha] at hS1
      rw [effect_unlinkat_err ha2] at hS2
      have h12 : OnlyRemoved s1 s2 := hS1.trans hR3.only
      cases hch2 : s2.child dir name with
      | none =>
        rw [answer_unlink_none _ hch2] at ha2
        cases ha2
        simp only [] at h4
        rw [if_neg (by decide)] at h4
        exact .inr (.inl ⟨(Run.ret_inv h4).2.1, absent_stable (hS2.trans h4.2.only) hch2⟩)
      | some c =>
        have hch1 : s1.child dir name = some c := child_back (hw.of_sub hR1.only) h12 hch2
        cases hdc : s1.isDir c with
        | false =>
          rw [answer_unlink0_file hch1 hdc] at ha
          cases ha
        | true =>
          have hdc2 : s2.isDir c = true := by rw [h12.kinds]; exact hdc
          by_cases he : s2.entries c = []
          · rw [answer_rmdir_empty hch2 hdc2 he] at ha2
            cases ha2
          · rw [answer_rmdir_nonempty hch2 hdc2 he] at ha2
            cases ha2
            simp only [] at h4
            rw [if_neg (by decide)] at h4
            exact .inr (.inr ⟨(Run.ret_inv h4).2.1, c, child_back hw hR1.only hch1, by rw [← hR1.kinds]; exact hdc,
              fun h0 => he (empty_stable (hR1.only.trans h12) h0)⟩)

theorem removeInode_tr {r : Except Err Unit}
    (h : Run (RemoveAll.removeInode dir name) s t r s') : Tr (fun _ => False) (· = (dir, name)) t :=
  Run.tr (RemoveAll.removeInode_sat (callsPass _ _) fun _ => .unlinkat rfl) h

/-- the first attempt of `remove_all`: the entry is gone, or it is a directory that was not empty -/
theorem removed_run {r : Except Err Bool}
    (hw : WF s rank) (hd : 0 ≤ dir)
    (h : Run (M.isOk (RemoveAll.ignoreEnoent (RemoveAll.removeInode dir name))) s t r s') :
    Tr (fun _ => False) (· = (dir, name)) t ∧
      ((r = .ok true ∧ s'.child dir name = none) ∨
       (r = .ok false ∧ ∃ c, s.child dir name = some c ∧ s.isDir c = true ∧ s.entries c ≠ [])) := by
  rw [M.isOk_eq, RemoveAll.ignoreEnoent_eq] at h
  obtain ⟨_, hy, rfl⟩ := Run.map_inv h
  obtain ⟨_, hx, rfl⟩ := Run.map_inv hy
  refine ⟨removeInode_tr hx, ?_⟩
  rcases removeInode_run hw hd hx with ⟨rfl, habs⟩ | ⟨rfl, habs⟩ | ⟨rfl, hc⟩
  · exact .inl ⟨rfl, habs⟩
  · exact .inl ⟨rfl, habs⟩
  · exact .inr ⟨rfl, hc⟩

/-- the last attempt of `remove_all`, once the directory is empty -/
theorem removeFinal_run {r : Except Err Unit}
    (hw : WF s rank) (hd : 0 ≤ dir) (hempty : ∀ c, s.child dir name = some c → s.entries c = [])
    (h : Run (RemoveAll.ignoreEnoent (RemoveAll.removeInode dir name)) s t r s') :
    Tr (fun _ => False) (· = (dir, name)) t ∧ r = .ok () ∧ s'.child dir name = none := by
  rw [RemoveAll.ignoreEnoent_eq] at h
  obtain ⟨_, hx, rfl⟩ := Run.map_inv h
  refine ⟨removeInode_tr hx, ?_⟩
  rcases removeInode_run hw hd hx with ⟨rfl, habs⟩ | ⟨rfl, habs⟩ | ⟨rfl, c, hc, _, hne⟩
  · exact ⟨rfl, habs⟩
  · exact ⟨rfl, habs⟩
  · exact absurd (hempty c hc) hne

/-! ## opening the directory, and its stream -/

theorem openSubdir_run {r : Except Err (Option Fd)} (hd : 0 ≤ d)
    (h : Run (RemoveAll.openSubdir d n) s t r s') :
    Tr (fun _ => False) (fun _ => False) t ∧ ∃ s1, Removes s s1 ∧ OnlyRemoved s1 s' ∧
      ((s1.child d n = none ∧ r = .ok none) ∨
       (∃ c, s1.child d n = some c ∧ s1.isDir c = true ∧ r = .ok (some c)) ∨
       (∃ c, s1.child d n = some c ∧ s1.isDir c = false)) := by
  rw [RemoveAll.openSubdir_eq] at h
  obtain ⟨_, hx, rfl⟩ := Run.map_inv h
  refine ⟨Run.tr (Sys.openat_sat (callsPass _ _) fun _ => .other rfl rfl) hx, ?_⟩
  rw [Sys.openat_eq hd] at hx
  obtain ⟨s1, td, hR1, rfl, hdisp⟩ := Run.mcall_inv hx
  refine ⟨s1, hR1, hdisp.2.only, ?_⟩
  cases hch : s1.child d n with
  | none =>
    have ha : s1.answer (.openat d n (O_DIRECTORY ||| O_NOFOLLOW ||| O_CLOEXEC ||| O_NOCTTY) 0) = .err ENOENT := by
      simp only [RFS.answer, hch]
    rw [ha] at hdisp
    exact .inl ⟨rfl, by rw [hdisp.1.failWith_result]; rfl⟩
  | some c =>
    cases hdc : s1.isDir c with
    | true =>
      have ha : s1.answer (.openat d n (O_DIRECTORY ||| O_NOFOLLOW ||| O_CLOEXEC ||| O_NOCTTY) 0) = .fd c := by
        simp only [RFS.answer, hch, hdc, ↓reduceIte]
      rw [ha] at hdisp
      exact .inr (.inl ⟨c, rfl, hdc, by rw [(Run.ret_inv hdisp).2.1]; rfl⟩)
    | false => exact .inr (.inr ⟨c, rfl, hdc⟩)

/-- what `dirNext` delivers from a stream -/
def peek : List Bytes → RemoveAll.DirItem
  | [] => .fin
  | n :: _ => .entry n

theorem nextEntry_run {sf : Nat} {r : Except Err RemoveAll.DirItem} {l : List Bytes}
    (hs : s.streams c = l) (hl : ∀ n ∈ l, RmAll.ProperName n) (h : Run (RemoveAll.nextEntry c (sf + 1)) s t r s') :
    r = .ok (peek l) ∧ s'.streams c = l.tail ∧
      Tr (· = c) (fun _ => False) t := by
  have htr := Run.tr (RemoveAll.nextEntry_sat (D := Calls (· = c) fun _ => False) (.dirNext rfl) _) h
  rw [RemoveAll.nextEntry.eq_2, M.bind_def] at h
  obtain ⟨s1, t2, hR1, rfl, h2⟩ := Run.mcall_inv h
  rw [← hR1.streams] at hs
  cases l with
  | nil =>
    have ha : s1.answer (.dirNext c) = .fin := by simp only [RFS.answer, hs]
    rw [ha] at h2
    obtain ⟨rfl, rfl, hR3⟩ := Run.ret_inv h2
    exact ⟨rfl, by rw [hR3.streams, streams_dirNext, hs], htr⟩
  | cons n rest =>
    have ha : s1.answer (.dirNext c) = .bytes n := by simp only [RFS.answer, hs]
    have hn := hl n List.mem_cons_self
    rw [ha] at h2
    simp only [hn.2.2.1, hn.2.2.2, or_self, ↓reduceIte] at h2
    obtain ⟨rfl, rfl, hR3⟩ := Run.ret_inv h2
    exact ⟨rfl, by rw [hR3.streams, streams_dirNext, hs], htr⟩

end

/-! ## the `children` loop and the rescan loop -/

/-- what `remove_all` with this fuel achieves on the entries of `c`, whatever the tree and whoever else removes:
the induction hypothesis of `removeAll_run` -/
def Converges (rank : Fd → Nat) (fuel : Nat) (c : Fd) : Prop :=
  ∀ (s s' : RFS) (n : Bytes) (t : Hist) (r : Except Err Unit), WF s rank → RmAll.ProperName n →
    Run (RemoveAll.removeAll fuel c n) s t r s' →
    r = .ok () ∧ s'.child c n = none ∧ Tr (rank · < rank c) (fun x => Below s c x.1) t

section
variable {rank : Fd → Nat} {c : Fd} {fuel sf : Nat} (IH : Converges rank fuel c)
include IH

/-- one round of the `children` loop: the peeked entry is removed, the next one is read from the stream (which the
removal below did not touch: it scans directories of lower rank) -/
theorem children_step {l : List Bytes} {n0 : Bytes} {k : Nat} {s s' : RFS} {t : Hist} {r : Except Err Unit}
    (hw : WF s rank) (hpn : ∀ n ∈ n0 :: l, RmAll.ProperName n) (hstr : s.streams c = l)
    (h : Run (RemoveAll.children (RemoveAll.removeAll fuel) c (sf + 1) (.entry n0) (k + 1)) s t r s') :
    ∃ t1 t2 sn, t = t1 ++ t2 ∧ OnlyRemoved s sn ∧ Tr (rank · < rank c + 1) (fun x => Below s c x.1) t1 ∧
      sn.child c n0 = none ∧ sn.streams c = l.tail ∧
      Run (RemoveAll.children (RemoveAll.removeAll fuel) c (sf + 1) (peek l) k) sn t2 r s' := by
  rw [children_entry] at h
  obtain ⟨t1, t2, x, sm, rfl, h1, h2⟩ := Run.mbind_inv' h
  rw [RemoveAll.ignoreEnoent_eq] at h1
  obtain ⟨_, hy, rfl⟩ := Run.map_inv h1
  obtain ⟨rfl, habs, htr1⟩ := IH _ _ _ _ _ hw (hpn n0 List.mem_cons_self) hy
  simp only [RemoveAll.ignoreRes] at h2
  obtain ⟨t3, t4, x3, sn, rfl, h3, h4⟩ := Run.mbind_inv' h2
  obtain ⟨rfl, hstrn, htr3⟩ := nextEntry_run (by rw [hy.2.streams htr1 (Nat.lt_irrefl _), hstr])
    (fun n hn => hpn n (List.mem_cons_of_mem _ hn)) h3
  exact ⟨t1 ++ t3, t4, sn, (List.append_assoc ..).symm, hy.2.only.trans h3.2.only,
    (htr1.mono (fun _ h => Nat.lt_succ_of_lt h) fun _ h => h).append
      (htr3.mono (fun _ h => h ▸ Nat.lt_succ_self _) fun _ h => h.elim),
    absent_stable h3.2.only habs, hstrn, h4⟩

/-- the `children` loop: the item in hand and the stream are `peek l` and `l.tail` for a list `l` of names of `c`;
all of them are absent afterwards -/
theorem children_run : ∀ (l : List Bytes) (k : Nat) (s s' : RFS) (t : Hist) (r : Except Err Unit),
    WF s rank → (∀ n ∈ l, RmAll.ProperName n) → s.streams c = l.tail → l.length + 1 ≤ k →
    Run (RemoveAll.children (RemoveAll.removeAll fuel) c (sf + 1) (peek l) k) s t r s' →
    r = .ok () ∧ (∀ n ∈ l, s'.child c n = none) ∧ Tr (rank · < rank c + 1) (fun x => Below s c x.1) t := by
  intro l
  induction l with
  | nil =>
    intro k s s' t r _ _ _ hk h
    obtain ⟨k, rfl⟩ := Nat.exists_eq_add_of_le' (Nat.le_of_add_left_le hk)
    obtain ⟨rfl, rfl, _⟩ := Run.ret_inv h
    exact ⟨rfl, fun _ hn => (nomatch hn), Tr.nil⟩
  | cons n0 l ih =>
    intro k s s' t r hw hpn hstr hk h
    obtain ⟨k, rfl⟩ := Nat.exists_eq_add_of_le' (Nat.le_of_add_left_le hk)
    obtain ⟨t1, t2, sn, rfl, hE, htr, habs, hstrn, h2⟩ := children_step IH hw hpn hstr h
    obtain ⟨rfl, habs', htr2⟩ := ih k sn s' t2 r (hw.of_sub hE)
      (fun n hn => hpn n (List.mem_cons_of_mem _ hn)) hstrn (Nat.le_of_succ_le_succ hk) h2
    refine ⟨rfl, fun n hn => ?_, htr.append (htr2.mono (fun _ h => h) fun _ hx => Below.mono hE.mem hx)⟩
    rcases List.mem_cons.mp hn with rfl | hn
    · exact absent_stable h2.2.only habs
    · exact habs' n hn

end

/-- the head of a scan: the stream is opened on what the directory holds then, and the first entry read -/
theorem scan_head {rank : Fd → Nat} {rm : Fd → Bytes → M Unit} {c : Fd} {sf m : Nat} {s s' : RFS} {t : Hist}
    {r : Except Err Unit} (hw : WF s rank) (h : Run (RemoveAll.scan rm c (sf + 1) (m + 1)) s t r s') :
    ∃ s1 sn t1 t2, t = t1 ++ t2 ∧ Removes s s1 ∧ OnlyRemoved s1 sn ∧ Tr (· = c) (fun _ => False) t1 ∧
      sn.streams c = ((s1.entries c).map (·.1)).tail ∧
      ((s1.entries c = [] ∧ r = .ok () ∧ t2 = [] ∧ Removes sn s') ∨
       (s1.entries c ≠ [] ∧
         Run (M.bind' (RemoveAll.children rm c (sf + 1) (peek ((s1.entries c).map (·.1))) (sf + 1)) fun _ =>
           RemoveAll.scan rm c (sf + 1) m) sn t2 r s')) := by
  rw [scan_succ] at h
  obtain ⟨s1, t2, hR1, rfl, h2⟩ := Run.mcall_inv h
  have ha : s1.answer (.dirOpen c) = .unit := rfl
  rw [ha] at h2 ⊢
  simp only [] at h2
  obtain ⟨t3, t4, x3, sn, rfl, h3, h4⟩ := Run.mbind_inv' h2
  obtain ⟨rfl, hstrn, htr3⟩ := nextEntry_run (streams_dirOpen c s1) ((hw.of_sub hR1.only).listed c) h3
  refine ⟨s1, sn, (Call.dirOpen c, Resp.unit) :: t3, t4, rfl, hR1, (effect_only s1 _).trans h3.2.only,
    .cons (.dirOpen rfl) htr3, hstrn, ?_⟩
  cases hent : s1.entries c with
  | nil =>
    rw [hent] at h4
    obtain ⟨rfl, rfl, hR⟩ := Run.ret_inv h4
    exact .inl ⟨rfl, rfl, rfl, hR⟩
  | cons x0 l =>
    rw [hent] at h4
    exact .inr ⟨fun h => (nomatch h), h4⟩

theorem scan_empty {rank : Fd → Nat} {rm : Fd → Bytes → M Unit} {c : Fd} {sf m : Nat} {s s' : RFS} {t : Hist}
    {r : Except Err Unit} (hw : WF s rank) (he : s.entries c = [])
    (h : Run (RemoveAll.scan rm c (sf + 1) (m + 1)) s t r s') :
    r = .ok () ∧ s'.entries c = [] ∧ Tr (· = c) (fun _ => False) t := by
  obtain ⟨s1, sn, t1, t2, rfl, hR1, _, htr, _, ⟨_, rfl, rfl, _⟩ | ⟨hne, _⟩⟩ := scan_head hw h
  · exact ⟨rfl, empty_stable h.2.only he, htr.append Tr.nil⟩
  · exact absurd (empty_stable hR1.only he) hne

/-- the rescan loop: the first pass removes everything the directory held when it was opened, and nothing is ever
added, so the second finds it empty -/
theorem scan_run {rank : Fd → Nat} {c : Fd} {fuel sf m : Nat} (IH : Converges rank fuel c)
    (s s' : RFS) (t : Hist) (r : Except Err Unit) (hw : WF s rank) (hsf : (s.entries c).length + 1 ≤ sf + 1)
    (h : Run (RemoveAll.scan (RemoveAll.removeAll fuel) c (sf + 1) (m + 2)) s t r s') :
    r = .ok () ∧ s'.entries c = [] ∧ Tr (rank · < rank c + 1) (fun x => Below s c x.1) t := by
  have up : ∀ {t}, Tr (· = c) (fun _ => False) t → Tr (rank · < rank c + 1) (fun x => Below s c x.1) t :=
    fun h => h.mono (fun _ h => h ▸ Nat.lt_succ_self _) fun _ h => h.elim
  obtain ⟨s1, sn, t1, t2, rfl, hR1, h1n, htr, hstrn, ⟨hent, rfl, rfl, hR⟩ | ⟨_, h2⟩⟩ := scan_head hw h
  · exact ⟨rfl, empty_stable (h1n.trans hR.only) hent, (up htr).append Tr.nil⟩
  · obtain ⟨t5, t6, x5, s5, rfl, h5, h6⟩ := Run.mbind_inv' h2
    have h0n : OnlyRemoved s sn := hR1.only.trans h1n
    have hwn : WF sn rank := hw.of_sub h0n
    have hlen : ((s1.entries c).map (·.1)).length + 1 ≤ sf + 1 := by
      rw [List.length_map]
      exact Nat.le_trans (Nat.succ_le_succ (hR1.sub c).length_le) hsf
    obtain ⟨rfl, habs, htr5⟩ := children_run IH _ (sf + 1) sn s5 t5 x5 hwn ((hw.of_sub hR1.only).listed c) hstrn hlen h5
    obtain ⟨rfl, he', htr6⟩ :=
      scan_empty (hwn.of_sub h5.2.only) (entries_nil_of_absent (h1n.trans h5.2.only) habs) h6
    exact ⟨rfl, he', (up htr).append ((htr5.mono (fun _ h => h) fun _ hx => Below.mono h0n.mem hx).append
      (up htr6))⟩

/-! ## `removeAll` -/

/-- One level of `remove_all`, by induction on the fuel.  Where the bounds come from: the model passes its fuel down
three ways.  `removeAll (fuel + 1)` recurses with `fuel`; the rescan loop gets `fuel` rounds, of which two are used
(`m + 2` in `scan_run`: the first pass removes what the directory held when it was opened, the second finds it
empty); and the stream reads and the `children` loop get `fuel` steps, of which a directory with `k` entries uses
`k + 1` (`l.length + 1 ≤ k` in `children_run`: the `l` names, the first of them in hand, and the closing `.fin`).
`WF.width` bounds `k` by the rank of the directory, ranks fall along entries, so `rank dir + 3 ≤ fuel` provides all
three at this level and is inherited by the next one. -/
theorem removeAll_run (rank : Fd → Nat) : ∀ (fuel : Nat) (s s' : RFS) (dir : Fd) (name : Bytes) (t : Hist) (r : Except Err Unit),
    WF s rank → 0 ≤ dir → RmAll.ProperName name → rank dir + 3 ≤ fuel →
    Run (RemoveAll.removeAll fuel dir name) s t r s' →
    r = .ok () ∧ s'.child dir name = none ∧
      Tr (rank · < rank dir) (fun x => x = (dir, name) ∨ ∃ c, s.child dir name = some c ∧ Below s c x.1) t := by
  intro fuel
  induction fuel with
  | zero => intro s s' dir name t r _ _ _ h; exact absurd h (Nat.not_succ_le_zero _)
  | succ fuel ih =>
    intro s s' dir name t r hw hdir hname hfuel h
    obtain ⟨f', rfl⟩ := Nat.exists_eq_add_of_le' (Nat.le_of_add_left_le (Nat.le_of_succ_le_succ hfuel))
    have hchild : ∀ c', rank c' < rank dir → rank c' + 3 ≤ f' + 2 := fun _ h =>
      Nat.le_trans (Nat.add_le_add_right h 2) (Nat.le_of_succ_le_succ hfuel)
    -- the attempts on (dir, name) itself, and what scans nothing and removes nothing
    have own : ∀ {t}, Tr (fun _ => False) (· = (dir, name)) t →
        Tr (rank · < rank dir) (fun x => x = (dir, name) ∨ ∃ c, s.child dir name = some c ∧ Below s c x.1) t :=
      fun h => h.mono (fun _ h => h.elim) fun _ h => .inl h
    have quiet : ∀ {t}, Tr (fun _ => False) (fun _ => False) t →
        Tr (rank · < rank dir) (fun x => x = (dir, name) ∨ ∃ c, s.child dir name = some c ∧ Below s c x.1) t :=
      fun h => h.mono (fun _ h => h.elim) fun _ h => h.elim
    rw [removeAll_succ hname] at h
    obtain ⟨t1, t2, x, sm, rfl, h1, h2⟩ := Run.mbind_inv' h
    obtain ⟨htr1, ⟨rfl, habs⟩ | ⟨rfl, c, hc, hdc, hne⟩⟩ := removed_run hw hdir h1
    · simp only [↓reduceIte] at h2
      exact ⟨(Run.ret_inv h2).2.1, absent_stable h2.2.only habs, (own htr1).append ((Run.ret_inv h2).1 ▸ Tr.nil)⟩
    · simp only [Bool.false_eq_true, ↓reduceIte] at h2
      obtain ⟨t3, t4, x3, sn, rfl, h3, h4⟩ := Run.mbind_inv' h2
      obtain ⟨htr3, s1, hR2, hS3, hcase3⟩ := openSubdir_run hdir h3
      have h01 : OnlyRemoved s s1 := h1.2.only.trans hR2.only
      have h0n : OnlyRemoved s sn := h01.trans hS3
      -- the directory that is opened is the child the first attempt found
      have same : ∀ c', s1.child dir name = some c' → c' = c := fun c' hch =>
        Option.some.inj ((child_back hw h01 hch).symm.trans hc)
      rcases hcase3 with ⟨hch, rfl⟩ | ⟨c', hch, hdc', rfl⟩ | ⟨c', hch, hdc'⟩
      · exact ⟨(Run.ret_inv h4).2.1, absent_stable (hS3.trans h4.2.only) hch,
          (own htr1).append ((quiet htr3).append ((Run.ret_inv h4).1 ▸ Tr.nil))⟩
      · obtain rfl := same c' hch
        simp only [] at h4
        rw [emptyDir_def] at h4
        have hm := child_mem hc
        have hrank := hw.rank_lt _ _ _ hm
        have hwn : WF sn rank := hw.of_sub h0n
        -- a directory: the scan empties it, by the induction hypothesis for its entries; then the last attempt, the close
        have IH : Converges rank (f' + 2) c' := fun u u' n tt rr hwu hpn hrun => by
          obtain ⟨hr, habs, htr⟩ := ih u u' c' n tt rr hwu (hw.nonneg _ _ _ hm) hpn (hchild c' hrank) hrun
          refine ⟨hr, habs, htr.mono (fun _ h => h) ?_⟩
          rintro x (rfl | ⟨e, he, hb⟩)
          · exact .self
          · exact (Below.step .self (child_mem he)).trans hb
        obtain ⟨t5, t6, x5, s5, rfl, h5, h6⟩ := Run.mbind_inv' h4
        obtain ⟨t7, t8, x7, s7, rfl, h7, h8⟩ := Run.onErr_ok h5
        obtain ⟨rfl, he7, htr7⟩ := scan_run IH sn s7 t7 x7 hwn
          (Nat.le_trans (Nat.succ_le_succ (hwn.width c')) (Nat.le_of_add_right_le (k := 2) (hchild c' hrank))) h7
        obtain ⟨rfl, rfl, hR8⟩ := h8 () rfl
        simp only [] at h6
        obtain ⟨t9, t10, x9, s9, rfl, h9, h10⟩ := Run.mbind_inv' h6
        rw [M.try'_eq] at h9
        obtain ⟨y, hy, rfl⟩ := Run.map_inv h9
        have h05 : OnlyRemoved s s5 := h0n.trans h5.2.only
        obtain ⟨htr9, rfl, habs9⟩ := removeFinal_run (hw.of_sub h05) hdir (fun c2 hc2 => by
          obtain rfl := Option.some.inj ((child_back hw h05 hc2).symm.trans hc)
          exact empty_stable hR8.only he7) hy
        obtain ⟨t11, t12, x11, s11, rfl, h11, h12⟩ := Run.mbind_inv' h10
        obtain ⟨_, _, rfl⟩ := RunsT.lift_inv h11.1
        obtain ⟨rfl, rfl, _⟩ := Run.ofExcept_inv h12
        have htr11 := Run.tr (S := fun _ => False) (U := fun _ => False)
          (SatM.lift (Sys.close_sat (callsPass _ _) c')) h11
        exact ⟨rfl, absent_stable h10.2.only habs9, (own htr1).append ((quiet htr3).append
          (((htr7.mono (fun _ h => Nat.lt_of_lt_of_le h hrank) fun _ hx =>
              .inr ⟨c', hc, Below.mono h0n.mem hx⟩).append Tr.nil).append
            ((own htr9).append ((quiet htr11).append Tr.nil))))⟩
      · obtain rfl := same c' hch
        rw [h01.kinds, hdc] at hdc'
        cases hdc'

/-- **Convergence under concurrent removal**: whatever the others remove meanwhile, `remove_all` succeeds, the
named entry is absent afterwards, the whole history only removed entries (so any number of callers compose), and
everything the call itself removed is the named entry or lies below it (in the initial tree). -/
theorem removeAll_converges (s s' : RFS) (rank : Fd → Nat) (hw : WF s rank) (dir : Fd) (hdir : 0 ≤ dir) (name : Bytes)
    (hname : RmAll.ProperName name) (fuel : Nat) (hfuel : rank dir + 3 ≤ fuel) (t : Hist) (r : Except Err Unit)
    (hr : RunsT (RemoveAll.removeAll fuel dir name) t r) (hv : ValidR s t s') :
    r = .ok () ∧ s'.child dir name = none ∧ OnlyRemoved s s' ∧
      ∀ d n, (d, n) ∈ ownRemovals t →
        (d = dir ∧ n = name) ∨ (∃ c, s.child dir name = some c ∧ Below s c d) := by
  obtain ⟨h1, h2, htr⟩ := removeAll_run rank fuel s s' dir name t r hw hdir hname hfuel ⟨hr, hv⟩
  refine ⟨h1, h2, hv.only, fun d n hm => ?_⟩
  rcases htr.own (d, n) hm with heq | hb
  · exact .inl ⟨congrArg Prod.fst heq, congrArg Prod.snd heq⟩
  · exact .inr hb

/-- the solitary run on the example tree of `RmAll.lean`: `remove_all` of the file `b` in the root `10` while the
environment does nothing is a `RunsT`/`ValidR` history, and `removeAll_converges` applies to it -/
example : ∃ t r s', RunsT (RemoveAll.removeAll 7 10 b!"b") t r ∧ ValidR Example.s0 t s' ∧
    t = [(Call.unlinkat 10 b!"b" 0, Resp.unit)] ∧ r = .ok () ∧ s'.child 10 b!"b" = none := by
  let o : Oracle := fun _ _ => .unit
  obtain ⟨t, ht, hr⟩ := RunsT.of_trace (RemoveAll.removeAll 7 10 b!"b") o []
  have hte : t = [(Call.unlinkat 10 b!"b" 0, Resp.unit)] := by
    have : (Prog.trace o (RemoveAll.removeAll 7 10 b!"b") []).1 = _ := ht
    simp only [List.nil_append] at this
    rw [← this]
    rfl
  have hv : ValidR Example.s0 [(Call.unlinkat 10 b!"b" 0, Resp.unit)]
      (Example.s0.effect (Call.unlinkat 10 b!"b" 0)) :=
    .cons (Removes.refl _) (by decide) (.nil (Removes.refl _))
  subst hte
  have hconv := removeAll_converges _ _ Example.rank0 Example.wf0 10 (by decide) b!"b" (by decide) 7 (by decide) _ _ hr hv
  exact ⟨_, _, _, hr, hv, rfl, hconv.1, hconv.2.1⟩

end RmAllRace
