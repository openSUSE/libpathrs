import Pathrs.Discipline
import Pathrs.Proofs.ByteEq

/-!
# Facts about the pure path helpers (`Path.*`)

Decimal rendering, NUL-freeness, and `splitSlash` (`raw_components`).  `joinSlash`, the `Ancestors` iterator and
`path_split` are in `Ancestors.lean`.
-/

/-! ## decimal digits -/

theorem natToDigits_allDigits (fuel n : Nat) : allDigits (Path.natToDigits fuel n) = true := by
  have digit : ∀ d, d < 10 → allDigits [(48 + d).toUInt8] = true := by decide
  fun_induction Path.natToDigits fuel n with
  | case1 => rfl
  | case2 fuel n h => exact digit n h
  | case3 fuel n h ih =>
    exact List.all_append.trans (Bool.and_eq_true_iff.2 ⟨ih, digit _ (Nat.mod_lt _ (by decide))⟩)

theorem decimal_allDigits (n : Nat) : allDigits (Path.decimal n) = true :=
  natToDigits_allDigits _ _

namespace KOpen

theorem decimal_mem (n : Nat) (c : UInt8) (h : c ∈ Path.decimal n) : 48 ≤ c ∧ c ≤ 57 := by
  have h' := decimal_allDigits n
  simp only [allDigits, List.all_eq_true, Bool.and_eq_true, decide_eq_true_eq] at h'
  exact h' c h

theorem decimal_noslash (n : Nat) : Path.containsSlash (Path.decimal n) = false := by
  simp only [Path.containsSlash, List.contains_eq_mem, decide_eq_false_iff_not]
  intro hm
  exact absurd (decimal_mem n _ hm).1 (by decide)

theorem decimal_snoc (n : Nat) : ∃ q c, Path.decimal n = q ++ [c] := by
  unfold Path.decimal
  rw [Path.natToDigits]
  split
  · exact ⟨[], _, rfl⟩
  · exact ⟨_, _, rfl⟩

theorem decimal_ne_nil (n : Nat) : Path.decimal n ≠ [] := by
  obtain ⟨q, c, h⟩ := decimal_snoc n
  rw [h]; simp

end KOpen

namespace KPath

theorem decimal_no_nul (n : Nat) : (Path.decimal n).contains 0 = false := by
  simp only [List.contains_eq_mem, decide_eq_false_iff_not]
  exact fun hm => absurd (KOpen.decimal_mem n 0 hm).1 (by decide)

end KPath

namespace KRun

theorem toCString_id (p : Bytes) (h : p.contains 0 = false) : Path.toCString p = p := by
  unfold Path.toCString
  induction p with
  | nil => rfl
  | cons c rest ih =>
    simp only [List.contains_cons, Bool.or_eq_false_iff] at h
    have hc : c ≠ 0 := by intro he; subst he; simp at h
    have := ih h.2
    simp only [List.takeWhile, ne_eq, hc, not_false_eq_true, decide_true] at this ⊢
    rw [this]

end KRun

namespace Path

theorem isAbsolute_append (a b : Bytes) (ha : a ≠ []) : isAbsolute (a ++ b) = isAbsolute a := by
  cases a with
  | nil => exact absurd rfl ha
  | cons x xs => rfl

theorem contains_append_false (a b : Bytes) (ha : a.contains 0 = false) (hb : b.contains 0 = false) :
    (a ++ b).contains 0 = false := by
  simp only [List.contains_eq_mem, List.mem_append, decide_eq_false_iff_not, not_or] at *
  exact ⟨ha, hb⟩

theorem containsSlash_cons {c : UInt8} {r : Bytes} :
    containsSlash (c :: r) = false ↔ c ≠ slash ∧ containsSlash r = false := by
  simp only [containsSlash, List.contains_cons, Bool.or_eq_false_iff, beq_eq_false_iff_ne, ne_comm]

theorem single_not_absolute (t : Bytes) (h : containsSlash t = false) : isAbsolute t = false := by
  cases t with
  | nil => rfl
  | cons a r => simp [isAbsolute, (containsSlash_cons.1 h).1]

end Path

/-! ## `splitSlash`

Inductions follow its four clauses: the empty string; a leading slash; another leading byte, before a rest whose split
is empty (never the case: `splitSlash_ne_nil`) or `y :: ys`. -/

namespace KPath

open Path

theorem splitSlash_cons_slash (x : Bytes) : splitSlash (slash :: x) = [] :: splitSlash x := by
  simp [splitSlash]

theorem splitSlash_ne_nil (p : Bytes) : splitSlash p ≠ [] := by
  fun_cases splitSlash p <;> exact List.cons_ne_nil _ _

theorem splitSlash_cons_noslash (c : UInt8) (x : Bytes) (hc : c ≠ slash) :
    ∃ y ys, splitSlash x = y :: ys ∧ splitSlash (c :: x) = (c :: y) :: ys := by
  cases hx : splitSlash x with
  | nil => exact absurd hx (splitSlash_ne_nil x)
  | cons y ys =>
    refine ⟨y, ys, rfl, ?_⟩
    conv => lhs; unfold splitSlash
    simp [hc, hx]

theorem splitSlash_append (a b : Bytes) :
    splitSlash (a ++ slash :: b) = splitSlash a ++ splitSlash b := by
  fun_induction splitSlash a with
  | case1 => exact splitSlash_cons_slash b
  | case2 rest ih => rw [List.cons_append, splitSlash_cons_slash, ih]; rfl
  | case3 c rest hc hnil => exact absurd hnil (splitSlash_ne_nil rest)
  | case4 c rest hc x xs hx ih =>
    rw [hx] at ih
    rw [List.cons_append, splitSlash, if_neg hc, ih]; rfl

theorem splitSlash_single_piece (x : Bytes) (h : containsSlash x = false) : splitSlash x = [x] := by
  fun_induction splitSlash x with
  | case1 => rfl
  | case2 rest ih => exact absurd rfl (containsSlash_cons.1 h).1
  | case3 c rest hc hnil => exact absurd hnil (splitSlash_ne_nil rest)
  | case4 c rest hc y ys hy ih => cases hy.symm.trans (ih (containsSlash_cons.1 h).2); rfl

theorem splitSlash_append_noslash (a b : Bytes) (ha : containsSlash a = false) :
    splitSlash (a ++ slash :: b) = a :: splitSlash b := by
  rw [splitSlash_append, splitSlash_single_piece a ha]
  rfl

theorem splitSlash_joinSlash (l : List Bytes) (hl : ∀ c ∈ l, containsSlash c = false) (hne : l ≠ []) :
    splitSlash (joinSlash l) = l := by
  fun_induction joinSlash l with
  | case1 => exact absurd rfl hne
  | case2 x => exact splitSlash_single_piece x (hl x List.mem_cons_self)
  | case3 x xs hxs ih =>
    rw [splitSlash_append_noslash _ _ (hl x List.mem_cons_self), ih (fun c hc => hl c (List.mem_cons_of_mem _ hc)) hxs]

theorem mem_splitSlash {p c : Bytes} (hc : c ∈ splitSlash p) {b : UInt8} (hb : b ∈ c) : b ∈ p ∧ b ≠ slash := by
  fun_induction splitSlash p generalizing c with
  | case1 => cases List.mem_singleton.1 hc; cases hb
  | case2 rest ih =>
    rcases List.mem_cons.1 hc with rfl | h
    · cases hb
    · exact (ih h hb).imp_left (List.mem_cons_of_mem _)
  | case3 x rest hx hnil => exact absurd hnil (splitSlash_ne_nil rest)
  | case4 x rest hx y ys hy ih =>
    rw [hy] at ih
    rcases List.mem_cons.1 hc with rfl | h
    · rcases List.mem_cons.1 hb with rfl | hb'
      · exact ⟨List.mem_cons_self, hx⟩
      · exact (ih List.mem_cons_self hb').imp_left (List.mem_cons_of_mem _)
    · exact (ih (List.mem_cons_of_mem _ h) hb).imp_left (List.mem_cons_of_mem _)

end KPath

theorem rawComponents_single (p : Bytes) : ∀ c ∈ Path.rawComponents p, single c := by
  intro c hc
  simp only [single, Path.containsSlash, List.contains_eq_mem, decide_eq_false_iff_not]
  exact fun hb => (KPath.mem_splitSlash hc hb).2 rfl

theorem single_dot : single Path.dot := by decide
theorem single_dotdot : single Path.dotdot := by decide

namespace KRun

theorem fdpath_no_nul (n : Nat) : (b!"fd/" ++ Path.decimal n).contains 0 = false :=
  Path.contains_append_false _ _ (by decide) (KPath.decimal_no_nul n)

end KRun
