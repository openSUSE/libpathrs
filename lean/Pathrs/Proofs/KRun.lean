import Pathrs.Proofs.KPath
import Pathrs.Proofs.Bits

/-!
# Running the model against a `World`

`Prog.run w` through the combinators of `M`, through the wrappers of `SysWrap.lean` (by the world's answer to
their one call) and through libpathrs' own procfs protocol: `as_unsafe_path` of a tree object reads where the
kernel prints it, so `check_current` passes when the expected path is the object's `dpath`.
-/

open K

namespace KRun

variable (w : World)

@[simp] theorem run_ret {α : Type} (a : α) : (Prog.ret a).run w = a := rfl
@[simp] theorem run_call {α : Type} (c : Call) (k : Resp → Prog α) :
    (Prog.call c k).run w = (k (w.answer c)).run w := rfl

theorem run_bind {α β : Type} (p : Prog α) (f : α → Prog β) :
    (Prog.bind p f).run w = (f (p.run w)).run w := by
  induction p with
  | ret a => rfl
  | call c k ih => simp [Prog.bind, ih]

/-! The combinators of `M`, in the forms `do`-notation produces. -/

/-- `run_bind` for a first program typed in `M` (`M` is not reducible, so `rw [run_bind]` does not see it) -/
theorem run_bindM {α β : Type} (p : M α) (f : Except Err α → Prog β) :
    Prog.run w (Prog.bind p f) = Prog.run w (f (Prog.run w p)) :=
  run_bind w p f

@[simp] theorem run_mbind {α β : Type} (p : M α) (f : α → M β) :
    Prog.run w (M.bind' p f) = match Prog.run w p with
      | .ok a => Prog.run w (f a)
      | .error e => .error e := by
  unfold M.bind'
  rw [run_bindM]
  cases Prog.run w p <;> rfl

theorem run_mbind_ok {α β : Type} (p : M α) (f : α → M β) (a : α) (h : Prog.run w p = .ok a) :
    Prog.run w (M.bind' p f) = Prog.run w (f a) := by
  rw [run_mbind, h]

theorem run_mbind_err {α β : Type} (p : M α) (f : α → M β) (e : Err) (h : Prog.run w p = .error e) :
    Prog.run w (M.bind' p f) = .error e := by
  rw [run_mbind, h]

@[simp] theorem run_do_pure {α : Type} (a : α) : Prog.run w (pure a : M α) = .ok a := rfl
@[simp] theorem run_do_throw {α : Type} (e : Err) : Prog.run w (throw e : M α) = .error e := rfl

@[simp] theorem run_lift {α : Type} (p : Prog α) : Prog.run w (M.lift p) = .ok (p.run w) := by
  unfold M.lift
  rw [run_bind]; rfl

@[simp] theorem run_do_liftP {α : Type} (p : Prog α) : Prog.run w (liftM p : M α) = .ok (p.run w) :=
  run_lift w p
@[simp] theorem run_do_monadLiftP {α : Type} (p : Prog α) : Prog.run w (monadLift p : M α) = .ok (p.run w) :=
  run_lift w p

@[simp] theorem run_mcall (c : Call) : Prog.run w (M.call c) = .ok (w.answer c) := by
  unfold M.call Prog.perform
  rw [run_lift]; rfl

@[simp] theorem run_ofExcept {α : Type} (x : Except Err α) : Prog.run w (M.ofExcept x) = x := by
  cases x <;> rfl

@[simp] theorem run_do_liftE {α : Type} (x : Except Err α) : Prog.run w (liftM x : M α) = x :=
  run_ofExcept w x
@[simp] theorem run_do_monadLiftE {α : Type} (x : Except Err α) : Prog.run w (monadLift x : M α) = x :=
  run_ofExcept w x

/-- clean-up on the error path is invisible: it only closes descriptors -/
@[simp] theorem run_onErr {α : Type} (p : M α) (c : Prog Unit) :
    Prog.run w (M.onErr p c) = Prog.run w p := by
  unfold M.onErr
  rw [run_bindM]
  cases Prog.run w p with
  | ok a => rfl
  | error e => show Prog.run w (Prog.bind c _) = _; rw [run_bind]; rfl

@[simp] theorem run_try {α : Type} (p : M α) : Prog.run w (M.try' p) = match Prog.run w p with
    | .ok a => .ok (.ok a)
    | .error e => if e.isFatal then .error e else .ok (.error e) := by
  unfold M.try'
  rw [run_bindM]
  cases Prog.run w p with
  | ok a => rfl
  | error e => exact apply_ite (Prog.run w) _ _ _

theorem run_try_ok {α : Type} (p : M α) (a : α) (h : Prog.run w p = .ok a) :
    Prog.run w (M.try' p) = .ok (.ok a) := by
  rw [run_try, h]

theorem run_try_err {α : Type} (p : M α) (e : Err) (h : Prog.run w p = .error e) (hf : e.isFatal = false) :
    Prog.run w (M.try' p) = .ok (.error e) := by
  rw [run_try, h]
  simp [hf]

/-! ### one bind at a time

With the result of the first program known, these take `run w (bind' p f)` to `run w (f a)` without looking at
`f`: chained with `Eq.trans`, they evaluate a long program along the path taken only (`KSim.walk_run`).
`run_mbind` produces a `match` whose arms `simp` then normalises for an unknown result, that is, the whole
remaining program on every path. -/

theorem run_mbind_try_ok {α β : Type} {p : M α} {a : α} (h : Prog.run w p = .ok a) (f : Except Err α → M β) :
    Prog.run w (M.bind' (M.try' p) f) = Prog.run w (f (.ok a)) :=
  run_mbind_ok w _ _ _ (run_try_ok w _ _ h)

theorem run_mbind_try_err {α β : Type} {p : M α} {e : Err} (h : Prog.run w p = .error e) (hf : e.isFatal = false)
    (f : Except Err α → M β) : Prog.run w (M.bind' (M.try' p) f) = Prog.run w (f (.error e)) :=
  run_mbind_ok w _ _ _ (run_try_err w _ _ h hf)

theorem run_mbind_onErr_ok {α β : Type} {p : M α} {a : α} (h : Prog.run w p = .ok a) (c : Prog Unit) (f : α → M β) :
    Prog.run w (M.bind' (p.onErr c) f) = Prog.run w (f a) :=
  run_mbind_ok w _ _ _ ((run_onErr w _ _).trans h)

theorem run_mbind_lift {α β : Type} (p : Prog α) (f : α → M β) :
    Prog.run w (M.bind' (M.lift p) f) = Prog.run w (f (p.run w)) :=
  run_mbind_ok w _ _ _ (run_lift w p)

/-- `let r ← try p; clean-up; r` is `p` on a world, which no call changes -/
theorem run_try_then {α β : Type} (p : M α) (c : Prog β) :
    Prog.run w (M.bind' (M.try' p) fun r => M.bind' (M.lift c) fun _ => M.ofExcept r) = Prog.run w p := by
  rw [run_mbind, run_try]
  cases Prog.run w p with
  | ok a => exact run_mbind_lift w c _
  | error e =>
    dsimp only
    by_cases hf : e.isFatal = true
    · rw [if_pos hf]
    · rw [if_neg hf]
      exact run_mbind_lift w c _

/-! ## descriptor bookkeeping is invisible -/

theorem run_close (fd : Fd) : (Sys.close fd).run w = () := rfl

theorem run_closeList (l : List Fd) : (Sys.closeList l).run w = () := by
  induction l with
  | nil => rfl
  | cons fd rest ih => unfold Sys.closeList; rw [run_bind]

theorem run_closeAll (l : List Fd) : (Sys.closeAll l).run w = () := rfl

theorem run_releaseMany (a b : List Fd) : (Opath.releaseMany a b).run w = () := rfl

@[simp] theorem run_close_simp (fd : Fd) : (Sys.close fd).run w = () := rfl
@[simp] theorem run_closeAll_simp (l : List Fd) : (Sys.closeAll l).run w = () := rfl
@[simp] theorem run_releaseMany_simp (a b : List Fd) : (Opath.releaseMany a b).run w = () := rfl

/-! ## building an error value always completes, with the error it was built for -/

theorem run_gettid : Sys.gettid.run w = 1 := rfl

@[simp] theorem run_failWith {α : Type} (fds : List Fd) (e : Nat) :
    Prog.run w (Sys.failWith (α := α) fds e) = .error (.os e) := by
  unfold Sys.failWith
  induction fds with
  | nil => rfl
  | cons fd rest ih =>
    unfold Sys.failWith.go
    rw [run_bind]
    exact ih

theorem hotfix_tree {fd : Fd} (h : 0 ≤ fd) : Sys.hotfix fd = .ok () := by
  unfold Sys.hotfix
  simp [h]

/-- the fuel `ProcfsHandle::open` starts with, in the form its recursion unfolds -/
theorem _root_.Procfs.retryFuel_eq : Procfs.retryFuel = 63 + 1 := rfl

end KRun

/-! ## the syscall wrappers on a world -/

namespace KRun

open World

/-- the environment libpathrs runs in on a `World`: a private, unmasked procfs handle with
the kernel resolver, `fs.protected_symlinks = 0` -/
def kenv (w : World) : Env :=
  { proc := { fd := procRoot, mntId := some w.procMnt, isSubset := false, emulated := false },
    openat2 := true, protectedSymlinks := 0 }

variable {w : World}

theorem int_even_not_odd (x : Int) (h0 : x % 2 = 0) (h1 : x % 2 = 1) : False := by omega
theorem int_ge4_nonneg (x : Int) (h : 4 ≤ x) : 0 ≤ x := by omega

theorem tree_ge4 {d : Fd} (h : isTree d) : (4 : Int) ≤ (d : Int) := h.1
theorem tree_mod {d : Fd} (h : isTree d) : (d : Int) % 2 = 0 := h.2
theorem tree_nonneg {d : Fd} (h : isTree d) : 0 ≤ d := int_ge4_nonneg d h.1
theorem nonneg_ne_cwd {d : Fd} (h : 0 ≤ d) : d ≠ AT_FDCWD := by
  intro he; rw [he] at h; exact absurd h (by decide)
theorem tree_ne_cwd {d : Fd} (h : isTree d) : d ≠ AT_FDCWD := nonneg_ne_cwd (tree_nonneg h)
theorem tree_ne_proc {d : Fd} (h : isTree d) : d ≠ procRoot := by
  have := h.1; intro he; rw [he] at this; exact absurd this (by decide)
theorem tree_ne_ts {d : Fd} (h : isTree d) : d ≠ threadSelf := by
  have := h.1; intro he; rw [he] at this; exact absurd this (by decide)
theorem tree_not_odd {d : Fd} (h : isTree d) : ¬ d % 2 = 1 :=
  fun h1 => int_even_not_odd d h.2 h1

theorem tree_ne_fdDir {d : Fd} (h : isTree d) : d ≠ fdDir := by
  intro he; have := h.2; rw [he] at this; exact absurd this (by decide)

/-- descriptors on libpathrs' procfs: `thread-self` and the magic-links -/
def onProc (d : Fd) : Prop := d = threadSelf ∨ (d % 2 = 1 ∧ 0 ≤ d)

theorem onProc_nonneg {d : Fd} (h : onProc d) : 0 ≤ d := by
  rcases h with rfl | h
  · decide
  · exact h.2

theorem onProc_cases {d : Fd} (hd : onProc d) : d = threadSelf ∨ d = procRoot ∨ d % 2 = 1 := by
  rcases hd with h | h
  · exact Or.inl h
  · exact Or.inr (Or.inr h.1)

theorem int_magic (x : Int) (h4 : 4 ≤ x) (h2 : x % 2 = 0) : (x + 1) % 2 = 1 ∧ 0 ≤ x + 1 ∧ x + 1 - 1 = x := by omega

theorem magic_onProc {f : Fd} (hf : isTree f) : onProc (magic f) :=
  Or.inr ⟨(int_magic f hf.1 hf.2).1, (int_magic f hf.1 hf.2).2.1⟩

/-! ### what the world answers, by kind of descriptor

`World.answer` decides by comparing descriptor numbers; these are its equations for a tree object, for a
descriptor on libpathrs' procfs and for the two procfs directories, so that no run lemma unfolds it. -/

theorem answer_openat_tree {d : Fd} (hd : isTree d) (n : Bytes) (fl m : Nat) :
    w.answer (.openat d n fl m) = match w.lookup d n with | .ok c => .fd c | .error e => .err e :=
  (if_neg (tree_ne_fdDir hd)).trans rfl

theorem answer_fstatat_tree {d : Fd} (hd : isTree d) (fl : Nat) :
    w.answer (.fstatat d [] fl) = .nums [modeOf (w.kind d), 0, d.toNat, 1] :=
  (if_neg (tree_ne_cwd hd)).trans ((if_neg (tree_ne_proc hd)).trans (if_pos rfl))

theorem answer_fstatfs_tree {d : Fd} (hd : isTree d) : w.answer (.fstatfs d) = .nums [0xEF53] :=
  if_neg fun h => h.elim (tree_ne_ts hd) fun h => h.elim (tree_ne_proc hd) (tree_not_odd hd)

theorem answer_readlinkat_tree {d : Fd} (hd : isTree d) (n : Nat) :
    w.answer (.readlinkat d [] n) = if w.kind d = .lnk then .bytes (w.body d) else .err EINVAL := by
  show (if ([] : Bytes) ≠ [] then Resp.err ENOENT else if d % 2 = 1 then _ else _) = _
  rw [if_neg (fun h => h rfl), if_neg (tree_not_odd hd)]

theorem answer_statx_proc {d : Fd} (hd : onProc d) (n : Bytes) (fl m : Nat) :
    w.answer (.statx d n fl m) = .nums [STATX_WANT, w.procMnt] :=
  if_pos (onProc_cases hd)

theorem answer_fstatfs_proc {d : Fd} (hd : onProc d) : w.answer (.fstatfs d) = .nums [PROC_SUPER_MAGIC] :=
  if_pos (onProc_cases hd)

theorem answer_readlinkat_magic {f : Fd} (hf : isTree f) (n : Nat) :
    w.answer (.readlinkat (magic f) [] n) =
      match w.dpath f with | some p => .bytes (w.render p) | none => .bytes [0] := by
  have h := int_magic f hf.1 hf.2
  show (if ([] : Bytes) ≠ [] then Resp.err ENOENT else if (f + 1) % 2 = 1 then
    (match w.dpath (f + 1 - 1) with | some p => Resp.bytes (w.render p) | none => Resp.bytes [0]) else _) = _
  rw [if_neg (fun h => h rfl), if_pos h.1, h.2.2]

theorem answer_openat2_ts (path : Bytes) (fl m rs sz : Nat) :
    w.answer (.openat2 threadSelf path fl m rs sz) =
      if (b!"fd/").isPrefixOf path then .fd (magic (parseDigits (path.drop 3)))
      else if path = b!"fd" then .fd fdDir else .err ENOENT :=
  rfl

theorem answer_proc_ts (w : World) (fl rs : Nat) :
    w.answer (.openat2 procRoot b!"thread-self" fl 0 rs OPEN_HOW_SIZE) = .fd threadSelf :=
  rfl

theorem answer_ts_fdDir (w : World) (fl rs : Nat) :
    w.answer (.openat2 threadSelf b!"fd" fl 0 rs OPEN_HOW_SIZE) = .fd fdDir := by
  rw [answer_openat2_ts, if_neg (by decide), if_pos rfl]

theorem answer_ts_fd (f : Fd) (h0 : 0 ≤ f) (w : World) (fl rs : Nat) :
    w.answer (.openat2 threadSelf (b!"fd/" ++ Path.decimal f.toNat) fl 0 rs OPEN_HOW_SIZE) = .fd (f + 1) := by
  have hpre : (b!"fd/").isPrefixOf (b!"fd/" ++ Path.decimal f.toNat) = true := rfl
  have hdrop : (b!"fd/" ++ Path.decimal f.toNat).drop 3 = Path.decimal f.toNat := rfl
  rw [answer_openat2_ts, if_pos hpre, hdrop, KPath.parse_decimal, Int.toNat_of_nonneg h0]
  rfl

theorem answer_openat_fdDir (n : Bytes) (fl m : Nat) :
    w.answer (.openat fdDir n fl m) =
      if hasAll fl O_NOFOLLOW then (if hasAll fl O_PATH then .fd (magic (parseDigits n)) else .err ELOOP)
      else match openKind (w.kind (parseDigits n)) fl with
        | .ok () => .fd (parseDigits n)
        | .error e => .err e :=
  rfl

theorem answer_openat2_root (hw : w.WF) (path : Bytes) (fl m rs sz : Nat)
    (hrs : hasAll rs (RESOLVE_IN_ROOT ||| RESOLVE_NO_MAGICLINKS) = true) :
    w.answer (.openat2 w.root path fl m rs sz) =
      match resolveInRoot w { nofollow := hasAll fl O_NOFOLLOW, noSymlinks := hasAll rs RESOLVE_NO_SYMLINKS,
                              maxLinks := w.kernelLinks } path with
      | .ok c => (match openKind (w.kind c) fl with | .ok () => .fd c | .error e => .err e)
      | .error e => .err e :=
  (if_neg (tree_ne_proc hw.root_tree)).trans ((if_neg (tree_ne_ts hw.root_tree)).trans (if_pos ⟨rfl, hrs⟩))

/-! ### the wrappers -/

/-- a wrapper of `SysWrap.lean` on a world, for a descriptor that passes its test: the dispatch on the world's
answer to the one call -/
theorem run_wrapper {α : Type} {d : Fd} (hd : 0 ≤ d) (c : Call) (k : Resp → M α) :
    Prog.run w (M.bind' (M.ofExcept (Sys.hotfix d)) fun _ => M.bind' (M.call c) k) = Prog.run w (k (w.answer c)) := by
  simp only [run_mbind, run_ofExcept, hotfix_tree hd, run_mcall]

theorem run_openat (d : Fd) (hd : isTree d) (n : Bytes) (fl mode : Nat) :
    Prog.run w (Sys.openat d n fl mode) =
      match w.lookup d n with
      | .ok c => .ok c
      | .error e => .error (.os e) := by
  refine (run_wrapper (tree_nonneg hd) _ _).trans ?_
  rw [answer_openat_tree hd]
  cases w.lookup d n with
  | ok c => rfl
  | error e => exact run_failWith w _ _

theorem run_fstatat_tree (d : Fd) (hd : isTree d) :
    Prog.run w (Sys.fstatat d []) = .ok { mode := modeOf (w.kind d), uid := 0, ino := d.toNat } := by
  refine (run_wrapper (tree_nonneg hd) _ _).trans ?_
  rw [answer_fstatat_tree hd]
  rfl

theorem run_fstatfs_tree (d : Fd) (hd : isTree d) : Prog.run w (Sys.fstatfs d) = .ok 0xEF53 := by
  refine (run_wrapper (tree_nonneg hd) _ _).trans ?_
  rw [answer_fstatfs_tree hd]
  rfl

theorem run_readlinkat_tree (hw : w.WF) (d : Fd) (hd : isTree d) :
    Prog.run w (Sys.readlinkat d []) = if w.kind d = .lnk then .ok (w.body d) else .error (.os EINVAL) := by
  refine (run_wrapper (tree_nonneg hd) _ _).trans ?_
  rw [answer_readlinkat_tree hd]
  by_cases hk : w.kind d = .lnk
  · have hlen : ¬ (w.body d).length ≥ READLINK_BUF := Nat.not_le.2 (hw.body_ok d hk).2.2
    simp only [if_pos hk, if_neg hlen, run_do_pure]
  · simp only [if_neg hk, run_failWith]

theorem run_readlinkat_lnk (hw : w.WF) (d : Fd) (hd : isTree d) (hk : w.kind d = .lnk) :
    Prog.run w (Sys.readlinkat d []) = .ok (w.body d) := by
  rw [run_readlinkat_tree hw d hd, if_pos hk]

theorem run_openat2 {d : Fd} (hd : 0 ≤ d) (path : Bytes) (hnul : path.contains 0 = false) (fl rs : Nat) :
    Prog.run w (Sys.openat2 d path fl rs) =
      match w.answer (.openat2 d path (fl ||| O_CLOEXEC) 0 rs OPEN_HOW_SIZE) with
      | .fd n => .ok n
      | .err e => .error (.os e)
      | _ => .error (.badResp "openat2") := by
  unfold Sys.openat2
  rw [if_neg (by rw [hnul]; exact Bool.false_ne_true), toCString_id path hnul]
  refine (run_wrapper hd _ _).trans ?_
  cases w.answer (.openat2 d path (fl ||| O_CLOEXEC) 0 rs OPEN_HOW_SIZE) with
  | err e => exact run_failWith w _ _
  | _ => rfl

/-! ## libpathrs' own procfs handle on a world -/

theorem run_isOk {α : Type} (p : M α) : Prog.run w (M.isOk p) = match Prog.run w p with
    | .ok _ => .ok true
    | .error e => if e.isFatal then .error e else .ok false := by
  refine (run_mbind w _ _).trans ?_
  rw [run_try]
  cases Prog.run w p with
  | ok a => rfl
  | error e => by_cases hf : e.isFatal = true <;> simp [hf]

theorem run_existsAt_ts : (Sys.existsAt procRoot b!"thread-self").run w = true := rfl

theorem run_intoPath_ts : Prog.run w (Procfs.intoPath .threadSelf procRoot) = .ok b!"thread-self" := by
  unfold Procfs.intoPath
  simp [Sys.threadSelfCandidates, Procfs.intoPath.probe, run_existsAt_ts]

theorem run_openat2_proc (fl rs : Nat) :
    Prog.run w (Sys.openat2 procRoot b!"thread-self" fl rs) = .ok threadSelf := by
  rw [run_openat2 (by decide) _ (by decide), answer_proc_ts]

theorem run_statx_proc (d : Fd) (hd : onProc d) (name : Bytes) :
    Prog.run w (Sys.statx d name STATX_WANT) = .ok (STATX_WANT, w.procMnt) := by
  refine (run_wrapper (onProc_nonneg hd) _ _).trans ?_
  rw [answer_statx_proc hd]
  rfl

theorem run_fstatfs_proc (d : Fd) (hd : onProc d) :
    Prog.run w (Sys.fstatfs d) = .ok PROC_SUPER_MAGIC := by
  refine (run_wrapper (onProc_nonneg hd) _ _).trans ?_
  rw [answer_fstatfs_proc hd]
  rfl

theorem run_fetchMntId_proc (d : Fd) (hd : onProc d) (name : Bytes) :
    Prog.run w (Procfs.fetchMntId d name) = .ok (some w.procMnt) := by
  unfold Procfs.fetchMntId
  simp [run_statx_proc d hd name, hasAny_statxWant]

theorem run_verifySameMnt_proc (d : Fd) (hd : onProc d) (name : Bytes) :
    Prog.run w (Procfs.verifySameMnt (some w.procMnt) d name) = .ok () := by
  unfold Procfs.verifySameMnt
  simp [run_fetchMntId_proc d hd name]

theorem run_verify_proc (d : Fd) (hd : onProc d) :
    Prog.run w (Procfs.verifySameProcfsMnt (kenv w).proc d) = .ok () := by
  unfold Procfs.verifySameProcfsMnt Procfs.verifyIsProcfs
  have hm : (kenv w).proc.mntId = some w.procMnt := rfl
  simp [hm, run_verifySameMnt_proc d hd [], run_fstatfs_proc d hd]

theorem run_resolve_proc_ts (fl : Nat)
    (hfl : (hasAny fl (O_CREAT ||| O_EXCL) || hasAll fl O_TMPFILE) = false) :
    Prog.run w (Procfs.resolve (kenv w) false procRoot b!"thread-self" fl 0) = .ok threadSelf := by
  unfold Procfs.resolve Procfs.openat2Resolve
  simp [hfl, kenv, run_openat2_proc]

theorem run_openBase_ts :
    Prog.run w (Procfs.openBase (kenv w) (kenv w).proc .threadSelf) = .ok threadSelf := by
  unfold Procfs.openBase
  have hv := run_verify_proc (w := w) threadSelf (Or.inl rfl)
  have hp : Prog.run w (Procfs.intoPath .threadSelf (kenv w).proc.fd) = .ok b!"thread-self" := run_intoPath_ts
  have hr' : Prog.run w (Procfs.resolve (kenv w) (kenv w).proc.emulated (kenv w).proc.fd b!"thread-self"
      (O_PATH ||| O_DIRECTORY) 0) = .ok threadSelf := run_resolve_proc_ts (O_PATH ||| O_DIRECTORY) (by decide)
  simp [hp, hr', hv]

theorem run_openat2_fd (f : Fd) (hf : isTree f) (fl rs : Nat) :
    Prog.run w (Sys.openat2 threadSelf (b!"fd/" ++ Path.decimal f.toNat) fl rs) = .ok (magic f) := by
  rw [run_openat2 (by decide) _ (fdpath_no_nul _), answer_ts_fd f (tree_nonneg hf)]
  rfl

/-- `ProcfsHandle::open` of a path below `thread-self`, on the world's procfs handle: what `openat2` finds
there, provided it lies on that procfs -/
theorem run_openH_ts (path : Bytes) (fl : Nat)
    (hfl : (hasAny (fl ||| O_NOFOLLOW) (O_CREAT ||| O_EXCL) || hasAll (fl ||| O_NOFOLLOW) O_TMPFILE) = false)
    (r : Fd) (hr : onProc r) (ho : ∀ fl rs, Prog.run w (Sys.openat2 threadSelf path fl rs) = .ok r) (fuel : Nat) :
    Prog.run w (Procfs.openH (kenv w) (fuel + 1) (kenv w).proc .threadSelf path fl) = .ok r := by
  rw [Procfs.openH]
  unfold Procfs.openStep Procfs.lookupVerified Procfs.resolve Procfs.openat2Resolve
  have hemu : (kenv w).proc.emulated = false := rfl
  have ho2 : (kenv w).openat2 = true := rfl
  simp only [hfl, hemu, ho2, Bool.false_eq_true, ↓reduceIte, Bool.not_true, M.bind_def, run_mbind, run_openBase_ts,
    run_try, ho, run_onErr, run_verify_proc r hr, run_do_liftP, run_do_pure]

theorem run_openH_fd (f : Fd) (hf : isTree f) (fuel : Nat) :
    Prog.run w (Procfs.openH (kenv w) (fuel + 1) (kenv w).proc .threadSelf (b!"fd/" ++ Path.decimal f.toNat) O_PATH)
      = .ok (magic f) :=
  run_openH_ts _ _ (by decide) _ (magic_onProc hf) (run_openat2_fd f hf) fuel

theorem run_readlinkat_magic (hw : w.WF) (f : Fd) (hf : isTree f) (p : List Bytes) (hp : w.dpath f = some p) :
    Prog.run w (Sys.readlinkat (magic f) []) = .ok (w.render p) := by
  have hlen : ¬ (w.render p).length ≥ READLINK_BUF := Nat.not_le.2 (hw.path_short f p hp)
  refine (run_wrapper (onProc_nonneg (magic_onProc hf)) _ _).trans ?_
  rw [answer_readlinkat_magic hf, hp]
  simp only [if_neg hlen, run_do_pure]

theorem run_readlinkH_fd (hw : w.WF) (f : Fd) (hf : isTree f) (p : List Bytes) (hp : w.dpath f = some p) :
    Prog.run w (Procfs.readlinkH (kenv w) (kenv w).proc .threadSelf (b!"fd/" ++ Path.decimal f.toNat)) =
      .ok (w.render p) := by
  unfold Procfs.readlinkH
  simp only [M.bind_def, run_mbind, Procfs.retryFuel_eq, run_openH_fd f hf 63, run_try, run_readlinkat_magic hw f hf p hp,
    run_do_liftP, run_ofExcept]

theorem procSubpath_nonneg (fd : Fd) (h : 0 ≤ fd) : Sys.procSubpath fd = .ok (b!"fd/" ++ Path.decimal fd.toNat) := by
  unfold Sys.procSubpath
  rw [if_neg (nonneg_ne_cwd h), if_pos h]

theorem run_asUnsafePath (hw : w.WF) (f : Fd) (hf : isTree f) (p : List Bytes) (hp : w.dpath f = some p) :
    Prog.run w (Procfs.asUnsafePath (kenv w) f) = .ok (w.render p) := by
  unfold Procfs.asUnsafePath
  simp only [M.bind_def, run_mbind, run_do_liftE, procSubpath_nonneg f (tree_nonneg hf)]
  exact run_readlinkH_fd hw f hf p hp

theorem run_checkCurrent (hw : w.WF) (cur : Fd) (e : List Bytes) (hc : w.dpath cur = some e) :
    Prog.run w (Opath.checkCurrent (kenv w) cur w.root e) = .ok () := by
  unfold Opath.checkCurrent
  have hroot := run_asUnsafePath hw w.root hw.root_tree [] hw.root_path
  have hcur := run_asUnsafePath hw cur (hw.path_tree cur e hc) e hc
  have heq := KPath.expected_eq_render w hw e (hw.path_proper cur e hc)
  have hrefl : Path.pathEq (w.render []) (w.render []) = true := by simp [Path.pathEq]
  simp only [M.bind_def, run_mbind, hroot, hcur, heq, hrefl, Bool.not_true, Bool.false_eq_true, ↓reduceIte,
    run_do_pure]

theorem run_mayFollowLink (cur next : Fd) (hc : isTree cur) (hn : isTree next) :
    Prog.run w (Opath.mayFollowLink (kenv w) cur next) = .ok () := by
  unfold Opath.mayFollowLink
  have h1 := run_fstatat_tree (w := w) cur hc
  have h2 := run_fstatat_tree (w := w) next hn
  have hg : Prog.run w (liftM Sys.geteuid : M Nat) = .ok 0 := by
    rw [run_do_liftP]; rfl
  simp only [M.bind_def, run_mbind, hg, h1, h2, Opath.mayFollowDecision, kenv, decide_true, Bool.true_or,
    ↓reduceIte, run_do_pure]

theorem run_isMagiclink (next : Fd) (hn : isTree next) :
    Prog.run w (Procfs.isMagiclinkFilesystem next) = .ok false := by
  unfold Procfs.isMagiclinkFilesystem
  simp only [M.bind_def, run_mbind, run_fstatfs_tree next hn, run_do_pure]
  -- `0xEF53` is what `answer_fstatfs_tree` gives for a tree object
  have : (decide (0xEF53 = PROC_SUPER_MAGIC) || decide (0xEF53 = APPARMORFS_MAGIC)) = false := by decide
  rw [this]

end KRun
