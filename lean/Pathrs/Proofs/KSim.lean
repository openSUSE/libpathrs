import Pathrs.Proofs.KRun
import Pathrs.Proofs.KPartial

/-!
# The emulated walk computes kernel in-root resolution (simulation proof)

One induction over `Opath.walk` against `World.kresolve` (`walk_run`), for the walk with and without its symlink
stack; from it `opath::resolve` and `resolve_partial` on a world, beside the kernel backend's `openat2`.
-/

open K KRun World KSim KSpec KPartial SStack

variable {w : World}

namespace KSim

/-- The opening of every step of the walk that finds its component, with what follows as a variable: the open is
answered `nxt`, the check made on it passes, `fstatat` answers the tree's stat of `nxt`, and the run continues as
`k nxt` of that stat. -/
theorem run_open_check_stat {β : Type} {cur nxt : Fd} {part : Bytes}
    (hopen : Prog.run w (Sys.openat cur part (O_PATH ||| O_NOFOLLOW) 0) = .ok nxt) (hn : isTree nxt)
    {chk : Fd → M Unit} (hchk : Prog.run w (chk nxt) = .ok ()) (E : Err → M β) (fail : Fd → Prog Unit)
    (k : Fd → Sys.Stat → M β) :
    Prog.run w (M.bind' (M.try' (Sys.openat cur part (O_PATH ||| O_NOFOLLOW) 0)) fun r =>
        match r with
        | .error e => E e
        | .ok next =>
          M.bind' ((chk next).onErr (fail next)) fun _ => M.bind' ((Sys.fstatat next []).onErr (fail next)) (k next)) =
      Prog.run w (k nxt { mode := modeOf (w.kind nxt), uid := 0, ino := nxt.toNat }) :=
  (run_mbind_try_ok w hopen _).trans <|
    (run_mbind_onErr_ok w hchk _ _).trans <|
    run_mbind_onErr_ok w (run_fstatat_tree nxt hn) _ _

/-- a step of the run taken in the goal, once for all the cases that share it -/
theorem run_step {α β : Type} {p q : M (α × β)} {P : α → β → Prop} (h : Prog.run w p = Prog.run w q)
    (hq : ∃ a b, Prog.run w q = .ok (a, b) ∧ P a b) : ∃ a b, Prog.run w p = .ok (a, b) ∧ P a b := by
  rw [h]; exact hq

theorem run_exitPartial (cfg : Opath.WalkCfg) (st : Opath.WalkSt) (extra : List Fd) (remaining : Bytes) (e : Err) :
    Prog.run w (Opath.exitPartial cfg st extra remaining e) = .ok (.part st.cur remaining e, st.stack) :=
  run_mbind_lift w _ _

/-- **Simulation of the emulated walk**, with or without the symlink stack.  The invariant is
`w.dpath st.cur = some st.expected` (so every `check_current` passes) and, for a walk that keeps a stack,
`StackInv` against the pending expansion `pre` (so no stack operation fails).  The walk returns what the
specification returns from its position, and `Post` describes the stack it returns.  The specification enters a
step through `step_error` and `step_ok`, the stack through `pop_step`, `swap_step` and `enoent_step` (all in
`KPartial.lean`), one per way a step treats it: they give the result of the stack operation and carry `Post` from the
rest of the walk to the whole. -/
theorem walk_run (hw : w.WF) (cfg : Opath.WalkCfg) (hroot : cfg.root = w.root) (st : Opath.WalkSt)
    (hinv : w.dpath st.cur = some st.expected) :
    ∀ pre T, st.rem = pre ++ T → Tracks cfg st.stack pre →
    ∃ l s', Prog.run w (Opath.walk (kenv w) cfg st) = .ok (l, s') ∧
      lookupOut l = toOut (kresolve w (kcfg cfg) st.cur st.rem st.links) ∧
      Post w cfg st.cur st.links st.stack pre T l s' := by
  fun_induction Opath.walk (kenv w) cfg st with
  | case1 st hrem =>
    intro pre T _ _
    rw [hrem, k_nil, hroot]
    have hc := run_checkCurrent hw st.cur st.expected hinv
    by_cases hcr : st.cur = w.root
    · rw [hcr] at hc
      refine ⟨.complete w.root, st.stack, ?_, by rw [hcr]; rfl, Post.of_claim (claim_complete)⟩
      simp only [run_mbind, run_onErr, hc, hcr, ↓reduceIte, run_openat _ hw.root_tree, lookup_dir_dot hw.root_dir,
        run_lift, run_do_pure]
    · refine ⟨.complete st.cur, st.stack, ?_, rfl, Post.of_claim (claim_complete)⟩
      simp only [run_mbind, run_onErr, hc, hcr, ↓reduceIte, run_lift, run_do_pure]
  | case2 st part0 rest hrem hcond e he =>
    intro pre T hpt hsi
    exfalso
    rw [hrem] at hpt
    have hcr : st.cur = w.root := (cur_root_iff hw hinv).2 hcond.2
    obtain ⟨s'', hpop, _⟩ := pop_step cfg st.cur w.root st.links
      (fun X => by rw [hcond.1, hcr, k2_dotdot hw.root_dir]; simp) hpt hsi part0 (by rw [hcond.1]; rfl)
    rw [hpop] at he
    cases he
  | case3 st part0 rest hrem hcond stack' hstk ih =>
    intro pre T hpt hsi
    rw [hrem] at hpt
    have hcr : st.cur = w.root := (cur_root_iff hw hinv).2 hcond.2
    obtain ⟨s'', hpop, pre', T', hr', hsi', htr⟩ := pop_step cfg st.cur w.root st.links
      (fun X => by rw [hcond.1, hcr, k2_dotdot hw.root_dir]; simp) hpt hsi part0 (by rw [hcond.1]; rfl)
    rw [hpop] at hstk
    cases hstk
    obtain ⟨l, s', h1, h2, h3⟩ := ih (by simp only [hroot, hcond.2]; exact hw.root_path) pre' T' hr' hsi'
    refine ⟨l, s', ?_, ?_, ?_⟩
    · simp only [run_mbind, run_lift]; exact h1
    · rw [h2, hrem, hcond.1, hcr, k_dotdot hw.root_dir]; simp [hroot]
    · apply htr; simpa [hroot] using h3
  | case4 st part0 rest hrem remaining hdd part expected' ih1 ih2 =>
    intro pre T hpt hsi
    rw [hrem] at hpt
    have hct : isTree st.cur := hw.path_tree _ _ hinv
    dsimp only at ih1 ih2
    have hspec : kresolve w (kcfg cfg) st.cur st.rem st.links =
        fstOut (kres2 w (kcfg cfg) st.cur (part0 :: rest) st.links) := by rw [hrem, kresolve_eq_kres2]
    -- the walk opens the component and then looks at what it found: `step_error` and `step_ok` say what the
    -- specification does with the same component, and `hspec` follows it down the branches the walk takes
    cases hlk : w.lookup st.cur part with
    | error e =>
      obtain ⟨hk, hnd⟩ := step_error (x := part0) (p := part) rfl hlk
      have hopen : Prog.run w (Sys.openat st.cur part (O_PATH ||| O_NOFOLLOW) 0) = .error (.os e) := by
        rw [run_openat _ hct, hlk]
      refine ⟨.part st.cur remaining (.os e), st.stack, ?_, by rw [hspec, hk]; rfl, ?_⟩
      · exact (run_mbind_try_err w hopen rfl _).trans (run_exitPartial _ _ _ _ _)
      · by_cases he : e = ENOENT
        · subst he
          exact enoent_step cfg st.cur st.links (fun X => by rw [kresolve_eq_kres2, hk]; rfl) hpt hsi (hnd rfl)
        · exact Post.of_claim (claim_other fun h => he (by cases h; rfl))
    | ok nxt =>
      obtain ⟨hnp, hstep, hlnk⟩ := step_ok hw hinv hdd (p := part) rfl hlk
      have hnt := hw.path_tree _ _ hnp
      have hopen : Prog.run w (Sys.openat st.cur part (O_PATH ||| O_NOFOLLOW) 0) = .ok nxt := by
        rw [run_openat _ hct, hlk]
      have hc : Prog.run w (Opath.checkCurrent (kenv w) nxt cfg.root expected') = .ok () := by
        rw [hroot]; exact run_checkCurrent hw _ _ hnp
      have hchk : Prog.run w (if part = Path.dotdot then Opath.checkCurrent (kenv w) nxt cfg.root expected'
          else pure () : M Unit) = .ok () :=
        (apply_ite (Prog.run w) _ _ _).trans (by rw [hc]; exact ite_self _)
      rw [hstep] at hspec
      -- the run is followed one bind at a time (`run_mbind_*_ok`, the result of the step known), so that only the path
      -- taken is ever looked at; the conditions are those of `kcfg cfg`, which are the walk's by definition
      refine run_step (run_open_check_stat hopen hnt (by exact hchk) _ _ _) ?_
      by_cases hl : w.kind nxt = .lnk
      · obtain ⟨hpart, hx, hnp'⟩ := hlnk hl
        have hexp : expected' = st.expected ++ [part0] := Option.some.inj (hnp.symm.trans hnp')
        rw [if_pos hl] at hspec
        refine run_step (congrArg (Prog.run w)
          (if_neg fun h => (not_isSymlink_modeOf (w.kind nxt) 0 nxt.toNat).1 h hl)) ?_
        by_cases htr0 : rest = [] ∧ (kcfg cfg).nofollow = true
        · rw [if_pos htr0] at hspec
          refine ⟨.complete nxt, st.stack, ?_, by rw [hspec]; rfl, Post.of_claim (claim_complete)⟩
          exact (congrArg (Prog.run w) (if_pos htr0)).trans <|
            (run_mbind_lift w _ _).trans <|
            (run_mbind_onErr_ok w hc _ _).trans <|
            (run_mbind_lift w _ _).trans rfl
        · rw [if_neg htr0] at hspec
          refine run_step (congrArg (Prog.run w) (if_neg htr0)) ?_
          by_cases hnosym : (kcfg cfg).noSymlinks = true
          · rw [if_pos hnosym] at hspec
            exact ⟨.part st.cur remaining (.os ELOOP), st.stack,
              (congrArg (Prog.run w) (if_pos hnosym)).trans (run_exitPartial _ _ _ _ _), by rw [hspec]; rfl,
              Post.of_claim (claim_other (by decide))⟩
          · rw [if_neg hnosym] at hspec
            refine run_step ((congrArg (Prog.run w) (if_neg hnosym)).trans
              (run_mbind_onErr_ok w (run_mayFollowLink st.cur nxt hct hnt) _ _)) ?_
            by_cases hlim : st.links + 1 ≥ (kcfg cfg).maxLinks
            · rw [if_pos hlim] at hspec
              exact ⟨.part st.cur remaining (.os ELOOP), st.stack,
                (congrArg (Prog.run w) (dif_pos hlim)).trans (run_exitPartial _ _ _ _ _), by rw [hspec]; rfl,
                Post.of_claim (claim_other (by decide))⟩
            · -- the link is followed: its body goes in front of the rest, with one link more on the count
              rw [if_neg hlim, ← kresolve_eq_kres2] at hspec
              have hmg : Prog.run w ((if Path.isAbsolute (w.body nxt) = true then
                  Procfs.isMagiclinkFilesystem nxt else pure false : M Bool)) = .ok false :=
                (apply_ite (Prog.run w) _ _ _).trans (by rw [run_isMagiclink nxt hnt]; exact ite_self _)
              obtain ⟨s'', hsw, pre', T', hr', hsi', htr⟩ := swap_step cfg st.cur
                (if Path.isAbsolute (w.body nxt) then w.root else st.cur) st.links (w.body nxt)
                (fun hnf X => by
                  rw [hstep, if_pos hl, if_neg (fun h => Bool.false_ne_true (hnf.symm.trans h.2)), if_neg hnosym,
                    if_neg hlim])
                hpt hsi hx
              have hsw' : Opath.stackOp cfg st.stack (·.swapLink part st.cur remaining (w.body nxt)) = .ok s'' := by
                rw [hpart]; exact hsw
              obtain ⟨l, s', h1, h2, h3⟩ := ih2 hlim (w.body nxt) s'' (by
                rw [hexp, List.dropLast_concat, hroot]
                by_cases habs : Path.isAbsolute (w.body nxt) = true
                · simp only [habs]; exact hw.root_path
                · simp only [habs]; exact hinv) pre' T' (by simpa using hr') (by simpa using hsi')
              refine ⟨l, s', ?_, by rw [hspec]; simpa [hroot] using h2, htr l s' (by simpa [hroot] using h3)⟩
              refine (congrArg (Prog.run w) (dif_neg hlim)).trans <|
                (run_mbind_onErr_ok w (run_readlinkat_lnk hw nxt hnt hl) _ _).trans <|
                (run_mbind_onErr_ok w hmg _ _).trans <|
                (congrArg (Prog.run w) (if_neg Bool.false_ne_true)).trans ?_
              rw [hsw']
              refine (run_mbind_lift w _ _).trans ?_
              simp only [dite_eq_ite] at h1
              exact h1
      · rw [if_neg hl, ← kresolve_eq_kres2] at hspec
        obtain ⟨s'', hpop, pre', T', hr', hsi', htr⟩ := pop_step cfg st.cur nxt st.links
          (fun X => (hstep _ X _).trans (if_neg hl)) hpt hsi part rfl
        obtain ⟨l, s', h1, h2, h3⟩ := ih1 nxt s'' hnp pre' T' hr' hsi'
        refine ⟨l, s', ?_, by rw [hspec]; exact h2, htr l s' h3⟩
        refine (congrArg (Prog.run w) (if_pos ((not_isSymlink_modeOf (w.kind nxt) 0 nxt.toNat).2 hl))).trans ?_
        rw [hpop]
        exact (run_mbind_lift w _ _).trans h1

/-- the walk without a stack (`opath::resolve`) -/
theorem walk_sim (hw : w.WF) (cfg : Opath.WalkCfg) (hroot : cfg.root = w.root)
    (hns : cfg.useStack = false) (st : Opath.WalkSt)
    (hinv : w.dpath st.cur = some st.expected) :
    ∃ l, Prog.run w (Opath.walk (kenv w) cfg st) = .ok (l, st.stack) ∧
      lookupOut l = toOut (kresolve w (kcfg cfg) st.cur st.rem st.links) := by
  obtain ⟨l, s', h1, h2, h3⟩ := walk_run hw cfg hroot st hinv [] st.rem rfl (fun h => nomatch hns.symm.trans h)
  rw [h3.1 hns] at h1
  exact ⟨l, h1, h2⟩

end KSim

namespace KSimStack

/-- **Simulation of the partial-lookup walk** -/
theorem walk_sim_stack (hw : w.WF) (cfg : Opath.WalkCfg) (hroot : cfg.root = w.root)
    (hs : cfg.useStack = true) (hnf : cfg.nofollow = false) (st : Opath.WalkSt)
    (hinv : w.dpath st.cur = some st.expected) :
    ∀ pre T, st.rem = pre ++ T → StackInv st.stack pre →
    ∃ l s', Prog.run w (Opath.walk (kenv w) cfg st) = .ok (l, s') ∧
      lookupOut l = toOut (kresolve w (kcfg cfg) st.cur st.rem st.links) ∧
      Claim w (kcfg cfg) st.cur st.links st.stack pre T l s' := by
  intro pre T hrem hsi
  obtain ⟨l, s', h1, h2, h3⟩ := walk_run hw cfg hroot st hinv pre T hrem (fun _ => hsi)
  exact ⟨l, s', h1, h2, h3.2 hs hnf⟩

end KSimStack

/-! ## both backends compute the specification -/

namespace KSpec

theorem run_dup (fd : Fd) : Prog.run w (Sys.dup fd) = .ok fd :=
  (run_mbind_ok w _ _ _ (run_mcall w _)).trans rfl

/-- `do_resolve` of a non-empty path: the duplicate of the root is the root, and the walk starts there -/
theorem run_doResolve (path : Bytes) (hp : path ≠ []) (rflags : Nat) (nofollow useStack : Bool) :
    Prog.run w (Opath.doResolve (kenv w) w.root path rflags nofollow useStack) =
      Prog.run w (Opath.walk (kenv w) { root := w.root, rflags, nofollow, useStack }
        { expected := [], cur := w.root, rem := Path.rawComponents path, links := 0, stack := [] }) :=
  (run_mbind_ok w _ _ _ (run_dup _)).trans (congrArg (Prog.run w) (if_neg hp))

theorem run_opath_resolve (hw : w.WF) (path : Bytes) (rflags : Nat) (nofollow : Bool) :
    Prog.run w (Opath.resolve (kenv w) w.root path rflags nofollow)
      = toOut (resolveInRoot w (ecfg rflags nofollow) path) := by
  unfold resolveInRoot
  by_cases hp : path = []
  · simp [hp, Opath.resolve, Opath.doResolve, run_dup, toOut]
  · obtain ⟨l, h1, h2⟩ := walk_sim hw { root := w.root, rflags, nofollow, useStack := false } rfl rfl
      { expected := [], cur := w.root, rem := Path.rawComponents path, links := 0, stack := [] } hw.root_path
    rw [if_neg hp]
    refine (run_mbind_ok w _ _ _ ((run_doResolve path hp _ _ _).trans h1)).trans (Eq.trans ?_ h2)
    cases l <;> simp [lookupOut]

open KOpen in
/-- `openat2(root, path, flags, RESOLVE_IN_ROOT|RESOLVE_NO_MAGICLINKS|rflags)` on a world, for any flags: the
kernel's in-root resolution, then `open(2)` of the object found -/
theorem run_openat2_inroot (hw : w.WF) (path : Bytes) (hnul : path.contains 0 = false) (flags rflags : Nat) :
    Prog.run w (Sys.openat2 w.root path flags (RESOLVE_IN_ROOT ||| RESOLVE_NO_MAGICLINKS ||| rflags)) =
      openSpec w (kcfgK w rflags (hasAll (flags ||| O_CLOEXEC) O_NOFOLLOW)) path (flags ||| O_CLOEXEC) := by
  have h2 : hasAll (RESOLVE_IN_ROOT ||| RESOLVE_NO_MAGICLINKS ||| rflags) RESOLVE_NO_SYMLINKS = hasAll rflags RESOLVE_NO_SYMLINKS :=
    hasAll_or_disj_left _ _ _ (by decide)
  rw [run_openat2 (tree_nonneg hw.root_tree) path hnul, answer_openat2_root hw _ _ _ _ _ (hasAll_or_right _ _), h2]
  unfold openSpec kcfgK
  cases resolveInRoot w _ path with
  | error e => rfl
  | ok c =>
    dsimp only
    cases openKind (w.kind c) (flags ||| O_CLOEXEC) <;> rfl

open KOpen in
theorem run_openat2_root (hw : w.WF) (path : Bytes) (hnul : path.contains 0 = false) (rflags : Nat) (nofollow : Bool) :
    Prog.run w (Sys.openat2 w.root path (if nofollow then O_PATH ||| O_NOFOLLOW else O_PATH)
        (RESOLVE_IN_ROOT ||| RESOLVE_NO_MAGICLINKS ||| rflags))
      = toOut (resolveInRoot w (kcfgK w rflags nofollow) path) := by
  have h4 : hasAll ((if nofollow then O_PATH ||| O_NOFOLLOW else O_PATH) ||| O_CLOEXEC) O_NOFOLLOW = nofollow := by
    cases nofollow <;> decide
  have hok : ∀ k, openKind k ((if nofollow then O_PATH ||| O_NOFOLLOW else O_PATH) ||| O_CLOEXEC) = .ok () := by
    intro k; cases k <;> cases nofollow <;> rfl
  rw [run_openat2_inroot hw path hnul, h4]
  unfold openSpec
  cases resolveInRoot w _ path <;> simp [toOut, hok]

theorem run_openat2_resolve (hw : w.WF) (path : Bytes) (hnul : path.contains 0 = false) (rflags : Nat)
    (nofollow : Bool) :
    Prog.run w (Openat2.resolve (kenv w) w.root path rflags nofollow)
      = toOut (resolveInRoot w (kcfgK w rflags nofollow) path) := by
  unfold Openat2.resolve
  have hk : (kenv w).openat2 = true := rfl
  have hf : (16 : Nat) = 15 + 1 := rfl
  simp only [hk, Bool.not_true, Bool.false_eq_true, ↓reduceIte]
  rw [hf, Openat2.resolveLoop]
  have ho := run_openat2_root hw path hnul rflags nofollow
  cases hr : resolveInRoot w (kcfgK w rflags nofollow) path with
  | ok c =>
    rw [hr] at ho
    exact run_mbind_try_ok w ho _
  | error e =>
    rw [hr] at ho
    have he := resolveInRoot_errors _ _ _ hr
    have h1 : e ≠ ENOSYS := by rcases he with h | h | h <;> rw [h] <;> decide
    have h2 : e ≠ EAGAIN := by rcases he with h | h | h <;> rw [h] <;> decide
    exact (run_mbind_try_err w ho rfl _).trans <|
      (congrArg (Prog.run w) (if_neg h1)).trans (congrArg (Prog.run w) (if_neg h2))

end KSpec

namespace KPartialRun

open KSimStack

open KProbe in
/-- `opath::resolve_partial` (emulated backend): the lookup itself; when a component does not exist, the object
after the longest resolvable prefix and the rest of the path as the caller wrote it -/
theorem run_opath_resolvePartial (hw : w.WF) (path : Bytes) (hp : path ≠ []) (rflags : Nat) :
    ∃ l, Prog.run w (Opath.resolvePartial (kenv w) w.root path rflags false) = .ok l ∧
      lookupOut l = toOut (kresolve w (ecfg rflags false) w.root (Path.rawComponents path) 0) ∧
      ∀ h r, l = .part h r (.os ENOENT) →
        ∃ j, pfx w (ecfg rflags false) (Path.rawComponents path) j = .ok h ∧
          pfx w (ecfg rflags false) (Path.rawComponents path) (j + 1) = .error ENOENT ∧
          r = Path.joinSlash ((Path.rawComponents path).drop j) := by
  obtain ⟨l, s', h1, h2, h3⟩ := walk_sim_stack hw { root := w.root, rflags, nofollow := false, useStack := true } rfl rfl rfl
    { expected := [], cur := w.root, rem := Path.rawComponents path, links := 0, stack := [] } hw.root_path
    [] (Path.rawComponents path) rfl inv_nil
  -- `kcfg` of this configuration is `ecfg rflags false`, by definition
  change lookupOut l = toOut (kresolve w (ecfg rflags false) w.root (Path.rawComponents path) 0) at h2
  change Claim w (ecfg rflags false) w.root 0 [] [] (Path.rawComponents path) l s' at h3
  cases l with
  | complete h =>
    refine ⟨.complete h, ?_, h2, fun _ _ hh => by cases hh⟩
    exact (run_mbind_ok w _ _ _ ((KSpec.run_doResolve path hp _ _ _).trans h1)).trans (run_mbind_lift w _ _)
  | part h r e =>
    -- `pop_top_symlink` reports `adjust s' h r`
    refine ⟨.part (adjust s' h r).1 (adjust s' h r).2 e, ?_, h2, ?_⟩
    · refine (run_mbind_ok w _ _ _ ((KSpec.run_doResolve path hp _ _ _).trans h1)).trans ?_
      cases s' with
      | nil => rfl
      | cons e t => exact run_mbind_lift w _ _
    · intro h' r' hh
      cases hh
      rcases h3 h r rfl with ⟨h0, _⟩ | ⟨m, l', j, x, g1, g2, g3, g4, g5⟩
      · exact absurd rfl h0
      · rw [kres2_nil] at g1
        cases g1
        exact ⟨j, by unfold pfx; rw [kresolve_eq_kres2, g3]; rfl, g5, g4⟩

end KPartialRun
