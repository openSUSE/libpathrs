import Pathrs.Proofs.SatSys
import Pathrs.Proofs.Bits
import Pathrs.Proofs.Ancestors
import Pathrs.Proofs.StackLemmas

/-!
# The calls of the lookup layer

`LookupCall followOk noCreat I` describes every call that the procfs handles, the two resolvers and what is built
from them alone can make, on descriptors satisfying `I`: it is `Disc followOk` without the calls that create,
remove, rename, scan, read a line or draw random bytes, with `I` in place of `0 ≤ ·`, and — when `noCreat` — with
no `O_CREAT` in any `openat`
(`Procfs.opathResolve` by itself passes any open flags on; every entry point refuses creation flags first).
One pass (`*_sat`) shows that these programs make only such calls, under any rely; the discipline of C05 (sane
answers, `I` = non-negative) and the absence of mutating and removing calls (any answers) are read off it.
-/

open K

def LookupCall (followOk noCreat : Bool) (I : Fd → Prop) : Call → Prop
  | .openat dir name flags _ =>
      (noCreat = true → hasAll flags O_CREAT = false) ∧
      ((I dir ∧ single name ∧ hasAll flags OPEN_FORCED = true)
        ∨ (followOk = true ∧ I dir ∧ single name ∧ hasAll flags (O_CLOEXEC ||| O_NOCTTY) = true)
        ∨ (dir = AT_FDCWD ∧ name = b!"/proc" ∧ hasAll flags OPEN_FORCED = true))
  | .openat2 dir _ flags _ resolve _ =>
      I dir ∧ hasAll flags O_CLOEXEC = true ∧
      (hasAll resolve (RESOLVE_IN_ROOT ||| RESOLVE_NO_MAGICLINKS) = true ∨
       hasAll resolve (RESOLVE_BENEATH ||| RESOLVE_NO_XDEV ||| RESOLVE_NO_MAGICLINKS) = true)
  | .readlinkat dir name _ => I dir ∧ name = []
  | .fstatat dir name flags =>
      flags = STAT_FLAGS ∧
      ((I dir ∧ (single name ∨ isProcProbe name)) ∨ (dir = AT_FDCWD ∧ startsWith name b!"/proc/"))
  | .statx dir name flags _ => I dir ∧ single name ∧ flags = STAT_FLAGS
  | .fstatfs fd => I fd
  | .accessat dir name _ flags => I dir ∧ single name ∧ flags = AT_SYMLINK_NOFOLLOW
  | .dup _ min => min = 3
  | .close _ => True
  | .gettid => True
  | .geteuid => True
  | .fsopen fstype flags => fstype = b!"proc" ∧ hasAll flags FSOPEN_CLOEXEC = true
  | .fsconfigSetString fd _ _ => I fd
  | .fsconfigCreate fd => I fd
  | .fsmount fd flags _ => I fd ∧ hasAll flags FSMOUNT_CLOEXEC = true
  | .openTree dir path flags => dir = AT_FDCWD ∧ path = b!"/proc" ∧ hasAll flags OPEN_TREE_CLOEXEC = true
  | .readlinkAbs path => startsWith path b!"/proc/"
  | _ => False

theorem LookupCall.disc {b nc : Bool} {c : Call} (h : LookupCall b nc (0 ≤ ·) c) : Disc b c := by
  -- the same clause, or `openat`'s without the conjunct on `O_CREAT`, or a call that `LookupCall` excludes
  cases c <;> first | exact h | exact h.2 | exact h.elim

theorem hasAll_forced (flags : Nat) :
    hasAll (flags ||| O_NOFOLLOW ||| O_CLOEXEC ||| O_NOCTTY) OPEN_FORCED = true := by
  have h : flags ||| O_NOFOLLOW ||| O_CLOEXEC ||| O_NOCTTY = flags ||| OPEN_FORCED := by
    simp [OPEN_FORCED, Nat.or_assoc]
  rw [h]
  exact hasAll_or_left _ _

variable {A : Call → Resp → Prop} {I : Fd → Prop} {b nc : Bool}

theorem single_nil : single [] := by decide

/-- an empty component is walked as `.` -/
theorem single_orDot {part : Bytes} (h : single part) : single (if part = [] then Path.dot else part) := by
  split
  · exact single_dot
  · exact h

theorem pathSplit_sat {D : Call → Prop} (path : Bytes) :
    SatM A D (M.ofExcept (Path.pathSplit path)) fun pr => ∀ n, pr.2 = some n → single n :=
  SatM.ofExcept <| by
    cases hs : Path.pathSplit path with
    | error e => trivial
    | ok pr => exact fun n hn => pathSplit_single (dir := pr.1) (hs.trans (by rw [← hn]))

/-! ## Programs that only inspect

They make calls that hand out no descriptor; the obligation for each call is a hypothesis, so that these lemmas
serve any guarantee. -/

section Inspect

variable {D : Call → Prop} (P : Pass A I D)
include P

namespace Procfs

theorem intoPath_sat (base : Base) {root : Fd}
    (hc : ∀ name, single name ∨ isProcProbe name → D (.fstatat root name STAT_FLAGS)) :
    SatM A D (intoPath base root) Top := by
  have probe : ∀ cands, (∀ c ∈ cands, single c ∨ isProcProbe c) → SatM A D (intoPath.probe root cands) Top :=
    fun cands hcands => by
      induction cands with
      | nil => exact SatM.pure trivial
      | cons c rest ih =>
        exact (SatM.lift (Sys.existsAt_sat fun _ => hc c (hcands c List.mem_cons_self))).bind fun ok _ =>
          Sat.ite (fun _ => SatM.pure trivial) fun _ => ih fun c' h' => hcands c' (List.mem_cons_of_mem _ h')
  cases base with
  | root => exact SatM.pure trivial
  | self => exact SatM.pure trivial
  | threadSelf =>
    refine (SatM.lift (Sys.gettid_sat P)).bind fun tid _ => probe _ fun c hc => ?_
    simp only [Sys.threadSelfCandidates, List.mem_cons, List.not_mem_nil, or_false] at hc
    rcases hc with rfl | rfl | rfl
    · exact Or.inr (Or.inl rfl)
    · exact Or.inr (Or.inr (Or.inr ⟨rfl, decimal_allDigits tid⟩))
    · exact Or.inr (Or.inr (Or.inl rfl))

theorem fetchMntId_sat {dir : Fd} {path : Bytes} (hc : D (.statx dir path STAT_FLAGS STATX_WANT)) :
    SatM A D (fetchMntId dir path) Top :=
  (Sys.statx_sat P fun _ => hc).try'.bind fun _ _ => by
    split
    · exact SatM.pure trivial
    · split <;> exact SatM.ret_top _
    · exact SatM.throw

theorem verifySameMnt_sat (m : Option Nat) {dir : Fd} {path : Bytes} (hc : D (.statx dir path STAT_FLAGS STATX_WANT)) :
    SatM A D (verifySameMnt m dir path) Top :=
  (fetchMntId_sat P hc).bind fun _ _ => by split <;> exact SatM.ret_top _

theorem verifyIsProcfs_sat {fd : Fd} (hc : D (.fstatfs fd)) : SatM A D (verifyIsProcfs fd) Top :=
  (Sys.fstatfs_sat P fun _ => hc).bind fun _ _ => by split <;> exact SatM.ret_top _

theorem verifySameProcfsMnt_sat (h : ProcH) {fd : Fd} (hx : D (.statx fd [] STAT_FLAGS STATX_WANT))
    (hf : D (.fstatfs fd)) : SatM A D (verifySameProcfsMnt h fd) Top :=
  (verifySameMnt_sat P _ hx).bind fun _ _ => verifyIsProcfs_sat P hf

theorem isMagiclinkFilesystem_sat {fd : Fd} (hc : D (.fstatfs fd)) : SatM A D (isMagiclinkFilesystem fd) Top :=
  (Sys.fstatfs_sat P fun _ => hc).bind fun _ _ => SatM.pure trivial

end Procfs

theorem Opath.mayFollowLink_sat (env : Env) {dir link : Fd} (hd : D (.fstatat dir [] STAT_FLAGS))
    (hl : D (.fstatat link [] STAT_FLAGS)) : SatM A D (Opath.mayFollowLink env dir link) Top :=
  (SatM.lift (Sys.geteuid_sat P)).bind fun _ _ => (Sys.fstatat_sat P fun _ => hd).bind fun _ _ =>
    (Sys.fstatat_sat P fun _ => hl).bind fun _ _ => by split <;> exact SatM.ret_top _

end Inspect

namespace LookupCall

theorem diag : DiagOk (LookupCall b nc I) where
  gettid := trivial
  geteuid := trivial
  probe := fun _ hp => ⟨rfl, Or.inr ⟨rfl, hp⟩⟩
  readlinkAbs := fun _ hp => hp
  close := fun _ => trivial
  dup := fun _ => rfl

theorem forced_noCreat {flags : Nat} (hf : nc = true → hasAll flags O_CREAT = false) (h : nc = true) :
    hasAll (flags ||| O_NOFOLLOW ||| O_CLOEXEC ||| O_NOCTTY) O_CREAT = false := by
  rw [hasAll_creat_or, hasAll_creat_or, hasAll_creat_or, hf h]; decide

theorem openat {dir : Fd} {name : Bytes} {flags : Nat} (mode : Nat) (hd : I dir) (hn : single name)
    (hf : nc = true → hasAll flags O_CREAT = false) :
    LookupCall b nc I (.openat dir name (flags ||| O_NOFOLLOW ||| O_CLOEXEC ||| O_NOCTTY) mode) :=
  ⟨forced_noCreat hf, Or.inl ⟨hd, hn, hasAll_forced flags⟩⟩

theorem statx {dir : Fd} {path : Bytes} (mask : Nat) (hd : I dir) (hp : single path) :
    LookupCall b nc I (.statx dir path STAT_FLAGS mask) := ⟨hd, hp, rfl⟩

theorem fstat {fd : Fd} (hd : I fd) : LookupCall b nc I (.fstatat fd [] STAT_FLAGS) :=
  ⟨rfl, Or.inl ⟨hd, Or.inl single_nil⟩⟩

end LookupCall

theorem lookupAny : Pass AnyAnswer Top (LookupCall b nc Top) := .any LookupCall.diag

section Procfs

variable (P : Pass A I (LookupCall b nc I))
include P

namespace Procfs

theorem openat2Resolve_sat (env : Env) {root : Fd} (path : Bytes) (oflags rflags : Nat) (hr : I root) :
    SatM A (LookupCall b nc I) (openat2Resolve env root path oflags rflags) I :=
  Sat.ite (fun _ => SatM.throw) fun _ =>
    Sys.openat2_sat P fun _ => ⟨hr, hasAll_or_left _ _, Or.inr (hasAll_or_mono _ _ _ (by decide))⟩

theorem opathFinal_sat (m : Option Nat) {oflags : Nat} {cur : Fd} (next : Fd) {part : Bytes} (isLink : Bool)
    (ho : nc = true → hasAll oflags O_CREAT = false) (hc : I cur) (hp : single part) :
    SatM A (LookupCall b nc I) (opathFinal m oflags cur next part isLink) (fun o => ∀ fd, o = some fd → I fd) :=
  (Sys.openat_sat P fun _ => .openat 0 hc hp fun h => by rw [hasAll_creat_or, ho h]; rfl).try'.bind fun r hr => by
    cases r with
    | ok fin =>
      refine ((verifySameMnt_sat P m (.statx _ hr single_nil)).onErr (Sys.closeAll_sat P _)).bind fun _ _ => ?_
      exact (SatM.lift (Sys.closeAll_sat P _)).bind fun _ _ => SatM.pure fun _ h => Option.some.inj h ▸ hr
    | error _ =>
      exact Sat.ite (fun _ => SatM.lift_then_throw (Sys.closeAll_sat P _)) fun _ => SatM.pure fun _ h => nomatch h

theorem opathLoop_sat (m : Option Nat) {oflags : Nat} (rflags : Nat) {cur : Fd} {rem : List Bytes} (links : Nat)
    (ho : nc = true → hasAll oflags O_CREAT = false) (hc : I cur) (hrem : ∀ c ∈ rem, single c) :
    SatM A (LookupCall b nc I) (opathLoop m oflags rflags cur rem links) I := by
  fun_induction opathLoop m oflags rflags cur rem links with
  | case1 cur links => exact SatM.pure hc
  | case2 cur links part0 rest part hdd => exact SatM.lift_then_throw (Sys.close_sat P _)
  | case3 cur links part0 rest part hdd ih1 ih2 =>
    have hpart : single part := single_orDot (hrem _ List.mem_cons_self)
    have hrest : ∀ c ∈ rest, single c := fun c h => hrem c (List.mem_cons_of_mem _ h)
    have fail := Sys.closeAll_sat P
    refine ((Sys.openat_sat P fun _ => .openat 0 hc hpart fun _ => rfl).onErr (Sys.close_sat P _)).bind fun next hn => ?_
    refine ((verifySameMnt_sat P m (.statx _ hn single_nil)).onErr (fail _)).bind fun _ _ => ?_
    refine ((Sys.fstatat_sat P fun _ => .fstat hn).onErr (fail _)).bind fun st _ => ?_
    refine SatM.bind (Q' := fun o => ∀ fd, o = some fd → I fd)
      (Sat.ite (fun _ => opathFinal_sat P m next _ ho hc hpart) fun _ => SatM.pure fun _ h => nomatch h) fun fin hfin => ?_
    cases fin with
    | some fd => exact SatM.pure (hfin _ rfl)
    | none =>
      refine Sat.ite (fun _ => (SatM.lift (Sys.close_sat P _)).bind fun _ _ => ih1 next hn hrest) fun _ => ?_
      refine Sat.ite (fun _ => SatM.lift_then_throw (fail _)) fun _ => ?_
      refine Sat.dite (fun _ => SatM.lift_then_throw (fail _)) fun hlim => ?_
      refine ((Sys.readlinkat_sat P fun _ => ⟨hn, rfl⟩).onErr (fail _)).bind fun target _ => ?_
      refine Sat.ite (fun _ => SatM.lift_then_throw (fail _)) fun _ => ?_
      refine (SatM.lift (Sys.close_sat P _)).bind fun _ _ => ih2 hlim target hc fun c hcm => ?_
      exact (List.mem_append.mp hcm).elim (rawComponents_single target c) (hrest c)

theorem opathResolve_sat {root : Fd} (path : Bytes) {oflags : Nat} (rflags : Nat)
    (ho : nc = true → hasAll oflags O_CREAT = false) (hr : I root) :
    SatM A (LookupCall b nc I) (opathResolve root path oflags rflags) I :=
  Sat.ite (fun _ => SatM.throw) fun _ =>
    (fetchMntId_sat P (.statx _ hr single_nil)).bind fun m _ => (Sys.dup_sat P root).bind fun _ hcur =>
      opathLoop_sat P m rflags 0 ho hcur (rawComponents_single path)

theorem resolve_sat (env : Env) (emulated : Bool) {root : Fd} (path : Bytes) (oflags rflags : Nat) (hr : I root) :
    SatM A (LookupCall b nc I) (resolve env emulated root path oflags rflags) I :=
  Sat.ite (fun _ => SatM.throw) fun hg => Sat.ite
    (fun _ => opathResolve_sat P path rflags (fun _ => noCreat_of_guard (Bool.eq_false_iff.mpr hg)) hr)
    fun _ => openat2Resolve_sat P env path oflags rflags hr

theorem tryFromFd_sat (env : Env) {inner : Fd} (hi : I inner) :
    SatM A (LookupCall b nc I) (tryFromFd env inner) (fun h => I h.fd) := by
  have close := Sys.close_sat P inner
  have missing : ∀ name, single name → SatM A (LookupCall b nc I) (missing inner name) Top := fun name hn =>
    (SatM.call ⟨hi, hn, rfl⟩ fun _ _ => trivial).bind fun _ _ => by split <;> exact SatM.ret_top _
  refine ((verifyIsProcfs_sat P hi).onErr close).bind fun _ _ => ?_
  refine ((Sys.fstatat_sat P fun _ => .fstat hi).onErr close).bind fun st _ => ?_
  refine Sat.ite (fun _ => SatM.lift_then_throw close) fun _ => ?_
  refine ((fetchMntId_sat P (.statx _ hi single_nil)).onErr close).bind fun _ _ => ?_
  refine SatM.bind (Q' := Top) ?_ fun _ _ => SatM.pure hi
  exact (missing _ (by decide)).bind fun _ _ => Sat.ite (fun _ => SatM.pure trivial) fun _ => missing _ (by decide)

theorem newFsopen_sat (env : Env) (subset : Bool) :
    SatM A (LookupCall b nc I) (newFsopen env subset) (fun h => I h.fd) := by
  refine (Sys.fsopen_sat P ⟨rfl, by decide⟩).bind fun sfd hs => ?_
  have close := Sys.close_sat P sfd
  have options : SatM A (LookupCall b nc I) (setSubsetOptions sfd subset) Top :=
    Sat.ite (fun _ => (Sys.fsconfigSetString_sat P hs).try'.bind fun _ _ =>
      (Sys.fsconfigSetString_sat P hs).try'.bind fun _ _ => SatM.pure trivial) fun _ => SatM.pure trivial
  refine options.bind fun _ _ => ?_
  refine ((Sys.fsconfigCreate_sat P hs).onErr close).bind fun _ _ => ?_
  refine ((Sys.fsmount_sat P fun _ => ⟨hs, by decide⟩).onErr close).bind fun mnt hm => ?_
  exact ((tryFromFd_sat P env hm).onErr close).bind fun h hh => (SatM.lift close).bind fun _ _ => SatM.pure hh

theorem newOpenTree_sat (env : Env) (flags : Nat) :
    SatM A (LookupCall b nc I) (newOpenTree env flags) (fun h => I h.fd) :=
  (Sys.openTree_sat P fun _ => ⟨rfl, rfl, hasAll_or_mono _ _ _ (by decide)⟩).bind fun _ hf => tryFromFd_sat P env hf

theorem newUnsafeOpen_sat (env : Env) : SatM A (LookupCall b nc I) (newUnsafeOpen env) (fun h => I h.fd) :=
  (Sys.openat_sat P fun _ => ⟨fun _ => by decide, Or.inr (Or.inr ⟨rfl, rfl, hasAll_forced _⟩)⟩).bind fun _ hf =>
    tryFromFd_sat P env hf

omit P in
theorem orElse_sat {α : Type} {p q : M α} {Q : α → Prop} (hp : SatM A (LookupCall b nc I) p Q)
    (hq : SatM A (LookupCall b nc I) q Q) : SatM A (LookupCall b nc I) (orElse p q) Q :=
  hp.try'.bind fun r hr => by
    cases r with
    | ok a => exact SatM.pure hr
    | error _ => exact hq

theorem new_sat (env : Env) : SatM A (LookupCall b nc I) (new env) (fun h => I h.fd) :=
  orElse_sat (newFsopen_sat P env true) (orElse_sat (newOpenTree_sat P env _) (newUnsafeOpen_sat P env))

theorem newUnmasked_sat (env : Env) : SatM A (LookupCall b nc I) (newUnmasked env) (fun h => I h.fd) :=
  orElse_sat (newFsopen_sat P env false) (orElse_sat (newOpenTree_sat P env _) (newUnsafeOpen_sat P env))

theorem lookupVerified_sat (env : Env) (h : ProcH) {basedir : Fd} (subpath : Bytes) (oflags : Nat) (hb : I basedir) :
    SatM A (LookupCall b nc I) (lookupVerified env h basedir subpath oflags) I :=
  (resolve_sat P env h.emulated subpath oflags 0 hb).bind fun _ hf =>
    ((verifySameProcfsMnt_sat P h (.statx _ hf single_nil) hf).onErr (Sys.close_sat P _)).bind fun _ _ => SatM.pure hf

theorem openBase_sat (env : Env) {h : ProcH} (base : Base) (hh : I h.fd) :
    SatM A (LookupCall b nc I) (openBase env h base) I :=
  (intoPath_sat P base fun _ hn => ⟨rfl, Or.inl ⟨hh, hn⟩⟩).bind fun path _ => lookupVerified_sat P env h path _ hh

theorem openH_sat (env : Env) (fuel : Nat) {h : ProcH} (base : Base) (subpath : Bytes) (oflags : Nat) (hh : I h.fd) :
    SatM A (LookupCall b nc I) (openH env fuel h base subpath oflags) I := by
  induction fuel generalizing h oflags with
  | zero => exact SatM.throw
  | succ n ih =>
    refine (openBase_sat P env base hh).bind fun basedir hb => ?_
    have close := Sys.close_sat P basedir
    refine (lookupVerified_sat P env h subpath _ hb).try'.bind fun first hfirst => ?_
    cases first with
    | ok _ => exact (SatM.lift close).bind fun _ _ => SatM.pure hfirst
    | error _ =>
      refine Sat.ite (fun _ => ?_) fun _ => SatM.lift_then_throw close
      refine (newUnmasked_sat P env).try'.bind fun r hr => ?_
      cases r with
      | error _ => exact SatM.lift_then_throw close
      | ok _ =>
        exact Sat.ite (fun _ => SatM.lift_then_throw (Sys.closeAll_sat P _)) fun _ =>
          (ih _ hr).try_then (Sys.closeAll_sat P _)

theorem readlinkH_sat (env : Env) {h : ProcH} (base : Base) (subpath : Bytes) (hh : I h.fd) :
    SatM A (LookupCall b nc I) (readlinkH env h base subpath) Top :=
  (openH_sat P env _ base subpath _ hh).bind fun link hl =>
    (Sys.readlinkat_sat P fun _ => ⟨hl, rfl⟩).try_then (Sys.close_sat P link)

theorem asUnsafePath_sat {env : Env} (fd : Fd) (hp : I env.proc.fd) :
    SatM A (LookupCall b nc I) (asUnsafePath env fd) Top :=
  (SatM.ofExcept (Ok.top _)).bind fun sub _ => readlinkH_sat P env _ sub hp

end Procfs

/-- the handle of a lookup result -/
def LedgerLogic.hnd : Lookup Fd → Fd
  | .complete h => h
  | .part h _ _ => h

open LedgerLogic (hnd)

namespace Opath

omit P in
/-- `stackOp` with the stack switched off hands the stack through -/
theorem stackOp_eq_ok {cfg : WalkCfg} {s s' : SStack} {f : SStack → Except SErr SStack}
    (hp : stackOp cfg s f = .ok s') : if cfg.useStack then f s = .ok s' else s' = s := by
  unfold stackOp at hp
  split
  · rw [if_pos ‹_›] at hp
    split at hp <;> cases hp
    assumption
  · rw [if_neg ‹_›] at hp
    cases hp; rfl

omit P in
theorem dirs_popPart {cfg : WalkCfg} {s s' : SStack} {part : Bytes}
    (hp : stackOp cfg s (·.popPart part) = .ok s') : ∀ x ∈ s'.dirs, x ∈ s.dirs := by
  have := stackOp_eq_ok hp
  split at this
  · exact SStack.dirs_popPart this
  · exact this ▸ fun _ h => h

omit P in
theorem dirs_swapLink {cfg : WalkCfg} {s s' : SStack} {part : Bytes} {dir : Fd} {r t : Bytes}
    (hp : stackOp cfg s (·.swapLink part dir r t) = .ok s') : ∀ x ∈ s'.dirs, x ∈ s.dirs ∨ x = dir := by
  have := stackOp_eq_ok hp
  split at this
  · rw [SStack.dirs_swapLink this]; simp
  · exact this ▸ fun _ h => Or.inl h

theorem checkCurrent_sat {env : Env} (cur root : Fd) (expected : List Bytes) (hp : I env.proc.fd) :
    SatM A (LookupCall b nc I) (checkCurrent env cur root expected) Top :=
  (Procfs.asUnsafePath_sat P root hp).bind fun _ _ => (Procfs.asUnsafePath_sat P cur hp).bind fun _ _ =>
    Sat.ite (fun _ => SatM.throw) fun _ => (Procfs.asUnsafePath_sat P root hp).bind fun _ _ =>
      Sat.ite (fun _ => SatM.throw) fun _ => SatM.pure trivial

theorem releaseMany_sat (cands held : List Fd) : Sat A (LookupCall b nc I) (releaseMany cands held) Top :=
  Sys.closeAll_sat P _

/-- what the walk hands back: the result's descriptor and every directory on the stack satisfy `I` -/
def WalkPost (I : Fd → Prop) (r : Lookup Fd × SStack) : Prop := I (hnd r.1) ∧ ∀ x ∈ r.2.dirs, I x

theorem exitPartial_sat (cfg : WalkCfg) {st : WalkSt} (extra : List Fd) (rem : Bytes) (e : Err) (hc : I st.cur)
    (hs : ∀ x ∈ st.stack.dirs, I x) : SatM A (LookupCall b nc I) (exitPartial cfg st extra rem e) (WalkPost I) :=
  (SatM.lift (releaseMany_sat P _ _)).bind fun _ _ => SatM.pure ⟨hc, hs⟩

theorem walk_sat (env : Env) (cfg : WalkCfg) (st : WalkSt) (hp : I env.proc.fd) (hroot : I cfg.root)
    (hcur : I st.cur) (hrem : ∀ c ∈ st.rem, single c) (hstk : ∀ x ∈ st.stack.dirs, I x) :
    SatM A (LookupCall b nc I) (walk env cfg st) (WalkPost I) := by
  have release := fun a c => SatM.lift (Q := Top) (releaseMany_sat P a c)
  have closeAll := fun l => Sys.closeAll_sat P l
  fun_induction walk env cfg st with
  | case1 st hrem' =>
    refine ((checkCurrent_sat P _ _ _ hp).onErr (closeAll _)).bind fun _ _ => ?_
    refine SatM.bind (Q' := I) ?_ fun res hres => (release _ _).bind fun _ _ => SatM.pure ⟨hres, hstk⟩
    exact Sat.ite (fun _ => (Sys.openat_sat P fun _ => .openat 0 hroot single_dot fun _ => rfl).onErr (closeAll _))
      fun _ => SatM.pure hcur
  | case2 => exact SatM.lift_then_throw (closeAll _)
  | case3 st part0 rest hrem' remaining hdd stack' ih =>
    rw [hrem'] at hrem
    exact (release _ _).bind fun _ _ => ih hroot (fun c h => hrem c (List.mem_cons_of_mem _ h))
      fun x hx => hstk x (dirs_popPart ‹_› x hx)
  | case4 st part0 rest hrem' remaining hdd part expected' ih1 ih2 =>
    rw [hrem'] at hrem
    have hpart : single part := single_orDot (hrem _ List.mem_cons_self)
    have hrest : ∀ c ∈ rest, single c := fun c h => hrem c (List.mem_cons_of_mem _ h)
    refine (Sys.openat_sat P fun _ => .openat 0 hcur hpart fun _ => rfl).try'.bind fun r hn => ?_
    cases r with
    | error e => exact exitPartial_sat P _ _ _ _ hcur hstk
    | ok next =>
      have fail := closeAll (next :: owned cfg st)
      have hn : I next := hn
      refine SatM.bind (Q' := Top) (SatM.onErr (Sat.ite (fun _ => checkCurrent_sat P _ _ _ hp) fun _ => SatM.pure trivial) fail)
        fun _ _ => ?_
      refine ((Sys.fstatat_sat P fun _ => .fstat hn).onErr fail).bind fun md _ => ?_
      refine Sat.ite (fun _ => ?_) fun _ => Sat.ite (fun _ => ?_) fun _ => Sat.ite (fun _ => ?_) fun _ => ?_
      · split
        · exact SatM.lift_then_throw fail
        · exact (release _ _).bind fun _ _ => ih1 _ _ hn hrest fun x hx => hstk x (dirs_popPart ‹_› x hx)
      · refine (release _ _).bind fun _ _ => ?_
        refine ((checkCurrent_sat P _ _ _ hp).onErr (closeAll _)).bind fun _ _ => ?_
        exact (release _ _).bind fun _ _ => SatM.pure ⟨hn, hstk⟩
      · exact exitPartial_sat P _ _ _ _ hcur hstk
      · refine ((mayFollowLink_sat P env (.fstat hcur) (.fstat hn)).onErr fail).bind fun _ _ => ?_
        refine Sat.dite (fun _ => exitPartial_sat P _ _ _ _ hcur hstk) fun hlim => ?_
        refine ((Sys.readlinkat_sat P fun _ => ⟨hn, rfl⟩).onErr fail).bind fun target _ => ?_
        refine SatM.bind (Q' := Top)
          (SatM.onErr (Sat.ite (fun _ => Procfs.isMagiclinkFilesystem_sat P hn) fun _ => SatM.pure trivial) fail) fun magic _ => ?_
        refine Sat.ite (fun _ => SatM.lift_then_throw fail) fun _ => ?_
        split
        · exact SatM.lift_then_throw fail
        · rename_i stack' hst
          refine (release _ _).bind fun _ _ => ih2 hlim target stack' ?_ ?_ fun x hx => ?_
          · dsimp only; split
            · exact hroot
            · exact hcur
          · exact fun c hc => (List.mem_append.mp hc).elim (rawComponents_single target c) (hrest c)
          · exact (dirs_swapLink hst x hx).elim (hstk x) fun h => h ▸ hcur

theorem doResolve_sat {env : Env} (root : Fd) (path : Bytes) (rflags : Nat) (nofollow useStack : Bool)
    (hp : I env.proc.fd) :
    SatM A (LookupCall b nc I) (doResolve env root path rflags nofollow useStack) (WalkPost I) :=
  (Sys.dup_sat P root).bind fun _ hrd => Sat.ite (fun _ => SatM.pure ⟨hrd, fun _ h => nomatch h⟩) fun _ =>
    walk_sat P env _ _ hp hrd hrd (rawComponents_single path) fun _ h => nomatch h

theorem resolve_sat {env : Env} (root : Fd) (path : Bytes) (rflags : Nat) (nofollow : Bool) (hp : I env.proc.fd) :
    SatM A (LookupCall b nc I) (resolve env root path rflags nofollow) I :=
  (doResolve_sat P root path rflags nofollow false hp).bind fun ⟨l, _⟩ hres => by
    cases l with
    | complete h => exact SatM.pure hres.1
    | part h _ _ => exact SatM.lift_then_throw (Sys.close_sat P h)

theorem resolvePartial_sat {env : Env} (root : Fd) (path : Bytes) (rflags : Nat) (nofollow : Bool)
    (hp : I env.proc.fd) :
    SatM A (LookupCall b nc I) (resolvePartial env root path rflags nofollow) (fun l => I (hnd l)) :=
  (doResolve_sat P root path rflags nofollow true hp).bind fun ⟨l, s⟩ hres => by
    cases l with
    | complete h => exact (SatM.lift (releaseMany_sat P _ _)).bind fun _ _ => SatM.pure hres.1
    | part h rem e =>
      cases s with
      | nil => exact SatM.pure hres.1
      | cons top rest =>
        exact (SatM.lift (releaseMany_sat P _ _)).bind fun _ _ => SatM.pure (hres.2 _ List.mem_cons_self)

end Opath

namespace Openat2

theorem resolveLoop_sat {root : Fd} (path : Bytes) (oflags : Nat) {mask : Nat} (hr : I root)
    (hm : hasAll mask (RESOLVE_IN_ROOT ||| RESOLVE_NO_MAGICLINKS) = true) (n : Nat) :
    SatM A (LookupCall b nc I) (resolveLoop root path oflags mask n) I := by
  induction n with
  | zero => exact SatM.throw
  | succ n ih =>
    refine (Sys.openat2_sat P fun _ => ⟨hr, hasAll_or_left _ _, Or.inl hm⟩).try'.bind fun r hr' => ?_
    split
    · exact SatM.pure hr'
    · exact Sat.ite (fun _ => SatM.throw) fun _ => Sat.ite (fun _ => ih) fun _ => SatM.throw
    · exact SatM.throw

theorem resolve_sat (env : Env) {root : Fd} (path : Bytes) (rflags : Nat) (nofollow : Bool) (hr : I root) :
    SatM A (LookupCall b nc I) (resolve env root path rflags nofollow) I :=
  Sat.ite (fun _ => SatM.throw) fun _ => resolveLoop_sat P path _ hr (hasAll_or_mono _ _ _ (by decide)) 16

theorem resolvePartial_sat (env : Env) {root : Fd} (path : Bytes) (rflags : Nat) (nofollow : Bool) (hr : I root) :
    SatM A (LookupCall b nc I) (resolvePartial env root path rflags nofollow) (fun l => I (hnd l)) := by
  have probe : ∀ anc e, SatM A (LookupCall b nc I) (probe env root rflags nofollow anc e) (fun l => I (hnd l)) :=
    fun anc => by
      induction anc with
      | nil => exact fun _ => SatM.throw
      | cons pr rest ih =>
        exact fun e => Sat.ite (fun _ => SatM.throw) fun _ =>
          (resolve_sat P env _ rflags nofollow hr).try'.bind fun r hr' => by
            cases r with
            | ok h => exact SatM.pure hr'
            | error e => exact ih e
  exact (resolve_sat P env path rflags nofollow hr).try'.bind fun r hr' => by
    cases r with
    | ok h => exact SatM.pure hr'
    | error e => exact probe _ e

theorem openOnce_sat (env : Env) {root : Fd} (path : Bytes) (rflags oflags : Nat) (hr : I root) :
    SatM A (LookupCall b nc I) (openOnce env root path rflags oflags) I :=
  Sat.ite (fun _ => SatM.throw) fun _ =>
    Sys.openat2_sat P fun _ => ⟨hr, hasAll_or_left _ _, Or.inl (hasAll_or_mono _ _ _ (by decide))⟩

end Openat2

namespace Resolver

/-- **the lookup**: `Root::resolve`, on either backend -/
theorem resolve_sat {env : Env} (r : Resolver) {root : Fd} (path : Bytes) (nofollow : Bool) (hr : I root)
    (hp : I env.proc.fd) : SatM A (LookupCall b nc I) (resolve env r root path nofollow) I :=
  Sat.ite (fun _ => Opath.resolve_sat P root path _ nofollow hp) fun _ => Openat2.resolve_sat P env path _ nofollow hr

theorem resolvePartial_sat {env : Env} (r : Resolver) {root : Fd} (path : Bytes) (nofollow : Bool) (hr : I root)
    (hp : I env.proc.fd) :
    SatM A (LookupCall b nc I) (resolvePartial env r root path nofollow) (fun l => I (hnd l)) :=
  Sat.ite (fun _ => Opath.resolvePartial_sat P root path _ nofollow hp) fun _ =>
    Openat2.resolvePartial_sat P env path _ nofollow hr

end Resolver

end Procfs

/-! ## The one followed link

`open_follow` lets the kernel follow the final component once: `followOk = true`. -/

section Follow

variable (P : Pass A I (LookupCall true nc I))
include P

namespace Procfs

theorem openFollowTail_sat (env : Env) {h : ProcH} (base : Base) (subpath : Bytes) {fl : Nat} (hh : I h.fd)
    (hf : nc = true → hasAll fl O_CREAT = false) : SatM A (LookupCall true nc I) (openFollowTail env h base subpath fl) I := by
  unfold openFollowTail
  refine (pathSplit_sat subpath).bind fun ⟨parent, trailing⟩ hpr => ?_
  cases trailing with
  | none => exact SatM.throw
  | some trailing =>
    have ht : single trailing := hpr _ rfl
    refine (openH_sat P env _ base parent _ hh).bind fun pfd hpf => ?_
    have close := Sys.close_sat P pfd
    refine ((fetchMntId_sat P (.statx _ hpf single_nil)).onErr close).bind fun pm _ => ?_
    refine ((verifySameMnt_sat P pm (.statx _ hpf ht)).onErr close).bind fun _ _ => ?_
    refine SatM.try_then (Q := I) (Sys.openatFollow_sat P fun _ => ?_) close
    refine ⟨fun h => by rw [hasAll_creat_or, hasAll_creat_or, hf h]; rfl, Or.inr (Or.inl ⟨rfl, hpf, ht, ?_⟩)⟩
    rw [Nat.or_assoc]; exact hasAll_or_left _ _

theorem openFollowH_sat (env : Env) {h : ProcH} (base : Base) (subpath : Bytes) (oflags : Nat) (hh : I h.fd) :
    SatM A (LookupCall true nc I) (openFollowH env h base subpath oflags) I := by
  refine Sat.ite (fun _ => SatM.throw) fun hg => ?_
  have tail := openFollowTail_sat P env base (Path.stripTrailingSlash subpath).1 hh fun _ =>
    noCreat_of_guard (Bool.eq_false_iff.mpr hg)
  refine (readlinkH_sat P env base _ hh).try'.bind fun r _ => ?_
  cases r with
  | error _ =>
    exact Sat.ite (fun _ => openH_sat P env _ base _ _ hh) fun _ => Sat.ite (fun _ => tail) fun _ => SatM.throw
  | ok _ => exact tail

theorem reopen_sat {env : Env} {fd : Fd} (flags : Nat) (hf : I fd) (hp : I env.proc.fd) :
    SatM A (LookupCall true nc I) (reopen env fd flags) I :=
  Sat.ite (fun _ => SatM.throw) fun _ => (Sys.fstatat_sat P fun _ => .fstat hf).bind fun _ _ =>
    Sat.ite (fun _ => SatM.throw) fun _ =>
      (SatM.ofExcept (Ok.top _)).bind fun sub _ => openFollowH_sat P env _ sub _ hp

end Procfs

/-- **the one-shot open** on either backend -/
theorem Resolver.openOnce_sat {env : Env} (r : Resolver) {root : Fd} (path : Bytes) (flags : Nat) (hr : I root)
    (hp : I env.proc.fd) : SatM A (LookupCall true nc I) (openOnce env r root path flags) I := by
  refine Sat.ite (fun _ => SatM.throw) fun _ => Sat.ite (fun _ => Openat2.openOnce_sat P env path _ _ hr) fun _ => ?_
  refine (resolve_sat P r path _ hr hp).bind fun handle hh => ?_
  have close := Sys.close_sat P handle
  refine ((Sys.fstatat_sat P fun _ => .fstat hh).onErr (Sys.close_sat P _)).bind fun st _ => ?_
  refine Sat.ite (fun _ => ?_) fun _ => (Procfs.reopen_sat P flags hh hp).try_then close
  refine Sat.ite (fun _ => SatM.lift_then_throw close) fun _ => ?_
  exact Sat.ite (fun _ => SatM.pure hh) fun _ => SatM.lift_then_throw close

end Follow
