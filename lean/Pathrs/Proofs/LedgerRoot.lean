import Pathrs.Proofs.LedgerOpath
import Pathrs.Proofs.Parent

/-!
# Ledger rules of the kernel resolver, the dispatch, `remove_all` and the `Root` operations
-/

open K

namespace LedgerLogic

variable {ext : List Fd}

theorem openat2_openOnce_led (env : Env) (root : Fd) (path : Bytes) (rflags oflags : Nat) :
    Led ext [] (Openat2.openOnce env root path rflags oflags) fun fd => [fd] :=
  Led.ite (fun _ => Led.throw) fun _ => openat2_led _ _ _ _

theorem resolveLoop_led (root : Fd) (path : Bytes) (oflags resolve : Nat) (n : Nat) :
    Led ext [] (Openat2.resolveLoop root path oflags resolve n) fun fd => [fd] := by
  induction n with
  | zero => exact Led.throw
  | succ n ih =>
    unfold Openat2.resolveLoop
    refine ((openat2_led root path oflags resolve).try' []).bind fun r => ?_
    split
    · exact Led.pure rfl
    · exact Led.ite (fun _ => Led.throw) fun _ => Led.ite (fun _ => ih) fun _ => Led.throw
    · exact Led.throw

theorem openat2_resolve_led (env : Env) (root : Fd) (path : Bytes) (rflags : Nat) (nofollow : Bool) :
    Led ext [] (Openat2.resolve env root path rflags nofollow) fun fd => [fd] :=
  Led.ite (fun _ => Led.throw) fun _ => resolveLoop_led root path _ _ 16

theorem openat2_probe_led (env : Env) (root : Fd) (rflags : Nat) (nofollow : Bool) :
    ∀ (anc : List (Bytes × Option Bytes)) (e : Err),
      Led ext [] (Openat2.probe env root rflags nofollow anc e) fun l => [hnd l] := by
  intro anc
  induction anc with
  | nil => intro e; exact Led.throw
  | cons pr rest ih =>
    intro e
    obtain ⟨p, remaining⟩ := pr
    refine Led.ite (fun _ => Led.throw) fun _ =>
      ((openat2_resolve_led env root p rflags nofollow).try' []).bind fun r => ?_
    cases r with
    | ok _ => exact Led.pure rfl
    | error _ => exact ih _

theorem openat2_resolvePartial_led (env : Env) (root : Fd) (path : Bytes) (rflags : Nat) (nofollow : Bool) :
    Led ext [] (Openat2.resolvePartial env root path rflags nofollow) fun l => [hnd l] := by
  unfold Openat2.resolvePartial
  refine ((openat2_resolve_led env root path rflags nofollow).try' []).bind fun r => ?_
  split
  · exact Led.pure rfl
  · exact openat2_probe_led env root rflags nofollow _ _

theorem resolver_resolve_led (env : Env) (r : Resolver) (root : Fd) (path : Bytes) (nofollow : Bool) :
    Led ext [] (Resolver.resolve env r root path nofollow) fun fd => [fd] :=
  Led.ite (fun _ => opath_resolve_led env root path _ nofollow) fun _ => openat2_resolve_led env root path _ nofollow

theorem resolver_resolvePartial_led (env : Env) (r : Resolver) (root : Fd) (path : Bytes) (nofollow : Bool) :
    Led ext [] (Resolver.resolvePartial env r root path nofollow) fun l => [hnd l] :=
  Led.ite (fun _ => opath_resolvePartial_led env root path _ nofollow)
    fun _ => openat2_resolvePartial_led env root path _ nofollow

theorem resolver_openOnce_led (env : Env) (r : Resolver) (root : Fd) (path : Bytes) (flags : Nat) :
    Led ext [] (Resolver.openOnce env r root path flags) fun fd => [fd] := by
  unfold Resolver.openOnce
  refine Led.ite (fun _ => Led.throw) fun _ => Led.ite (fun _ => openat2_openOnce_led env root path _ _) fun _ => ?_
  refine (resolver_resolve_led env r root path _).bind fun handle => ?_
  refine ((fstatat_led handle []).onErr [handle] (LedP.close handle [])).bind fun st => ?_
  refine Led.ite (fun _ => ?_) fun _ => (reopen_led env handle flags).try_then [handle] fun _ => LedP.close handle []
  refine Led.ite (fun _ => Led.close_then handle Led.throw) fun _ => ?_
  exact Led.ite (fun _ => Led.pure rfl) fun _ => Led.close_then handle Led.throw

theorem ignoreEnoent_led {p : M Unit} (hp : Led ext [] p fun _ => []) :
    Led ext [] (RemoveAll.ignoreEnoent p) fun _ => [] := by
  unfold RemoveAll.ignoreEnoent
  refine (hp.try' []).bind fun r => ?_
  split
  · exact Led.pure rfl
  · exact Led.ite (fun _ => Led.pure rfl) fun _ => Led.throw
  · exact Led.throw

theorem removeInode_led (dir : Fd) (name : Bytes) : Led ext [] (RemoveAll.removeInode dir name) fun _ => [] := by
  unfold RemoveAll.removeInode
  refine ((unlinkat_led dir name 0).try' []).bind fun r => ?_
  split
  · exact Led.pure rfl
  · refine ((unlinkat_led dir name _).try' []).bind fun r2 => ?_
    split
    · exact Led.pure rfl
    · exact Led.ite (fun _ => Led.throw) fun _ => Led.throw

theorem nextEntry_led (fd : Fd) (n : Nat) : Led ext [] (RemoveAll.nextEntry fd n) fun _ => [] := by
  induction n with
  | zero => exact Led.throw_fatal rfl
  | succ n ih =>
    unfold RemoveAll.nextEntry
    refine Led.call rfl fun r => ?_
    split
    · exact Led.ite (fun _ => ih) fun _ => Led.pure rfl
    · exact Led.pure rfl
    · exact Led.pure rfl
    · exact Led.throw_fatal rfl

theorem children_led (rm : Fd → Bytes → M Unit) (subdir : Fd) (sf : Nat)
    (hrm : ∀ name, Led ext [] (rm subdir name) fun _ => []) :
    ∀ (n : Nat) (first : RemoveAll.DirItem), Led ext [] (RemoveAll.children rm subdir sf first n) fun _ => [] := by
  intro n first
  -- by the clauses of `children`: out of fuel, the end of the stream, an error, an entry
  fun_induction RemoveAll.children rm subdir sf first n with
  | case1 => exact Led.throw_fatal rfl
  | case2 => exact Led.pure rfl
  | case3 => exact Led.throw
  | case4 child n ih =>
    exact (ignoreEnoent_led (hrm child)).bind fun _ => (nextEntry_led subdir sf).bind fun nxt => ih nxt

theorem scan_led (rm : Fd → Bytes → M Unit) (subdir : Fd) (sf : Nat)
    (hrm : ∀ name, Led ext [] (rm subdir name) fun _ => []) (n : Nat) :
    Led ext [] (RemoveAll.scan rm subdir sf n) fun _ => [] := by
  induction n with
  | zero => exact Led.throw_fatal rfl
  | succ n ih =>
    unfold RemoveAll.scan
    refine Led.call rfl fun r => ?_
    split
    · refine (nextEntry_led subdir sf).bind fun first => ?_
      split
      · exact Led.pure rfl
      · exact (children_led rm subdir sf hrm sf _).bind fun _ => ih
    · exact Led.ite (fun _ => Led.pure rfl) fun _ => Led.throw
    · exact Led.throw_fatal rfl

theorem openSubdir_led (dir : Fd) (name : Bytes) :
    Led ext [] (RemoveAll.openSubdir dir name) Option.toList := by
  unfold RemoveAll.openSubdir
  refine ((openat_led dir name O_DIRECTORY 0).try' []).bind fun r => ?_
  split
  · exact Led.pure rfl
  · exact Led.ite (fun _ => Led.pure rfl) fun _ => Led.throw
  · exact Led.throw

theorem emptyDir_led (rm : Fd → Bytes → M Unit) (dir : Fd) (name : Bytes) (subdir : Fd) (fuel : Nat)
    (hrm : ∀ ext nm, Led ext [] (rm subdir nm) fun _ => []) :
    Led ext [subdir] (RemoveAll.emptyDir rm dir name subdir fuel) fun _ => [] := by
  unfold RemoveAll.emptyDir
  refine ((scan_led rm subdir fuel (hrm _) fuel).onErr [subdir] (LedP.close subdir [])).bind fun _ => ?_
  exact (ignoreEnoent_led (removeInode_led dir name)).try_then [subdir] fun _ => LedP.close subdir []

theorem Led.isOk {p : M α} (hp : Led ext [] p fun _ => []) : Led ext [] (M.isOk p) fun _ => [] := by
  unfold M.isOk
  refine (hp.try' []).bind fun r => ?_
  split <;> exact Led.pure rfl

theorem removeAll_led (fuel : Nat) : ∀ (ext : List Fd) (dir : Fd) (name : Bytes),
    Led ext [] (RemoveAll.removeAll fuel dir name) fun _ => [] := by
  induction fuel with
  | zero => intro ext dir name; exact Led.throw_fatal rfl
  | succ n ih =>
    intro ext dir name
    unfold RemoveAll.removeAll
    refine Led.ite (fun _ => Led.throw) fun _ => Led.ite (fun _ => Led.throw) fun _ => ?_
    refine (Led.isOk (ignoreEnoent_led (removeInode_led dir name))).bind fun removed => ?_
    refine Led.ite (fun _ => Led.pure rfl) fun _ => (openSubdir_led dir name).bind fun sub => ?_
    cases sub with
    | none => exact Led.pure rfl
    | some subdir => exact emptyDir_led _ dir name subdir n fun ext nm => ih ext subdir nm

theorem resolveParent_led (env : Env) (root : Root) (path : Bytes) :
    Led ext [] (Root.resolveParent env root path) fun pr => [pr.1] := by
  unfold Root.resolveParent
  refine Led.bind_ofExcept fun pr => ?_
  exact (resolver_resolve_led env root.resolver root.fd pr.1 false).bind fun dir => Led.pure rfl

theorem root_readlink_led (env : Env) (root : Root) (path : Bytes) :
    Led ext [] (Root.readlink env root path) fun _ => [] := by
  unfold Root.readlink Root.resolve
  refine (resolver_resolve_led env root.resolver root.fd path true).bind fun link => ?_
  exact (readlinkat_led link []).try_then [link] fun _ => LedP.close link []

theorem withParent_led {α : Type} (env : Env) (root : Root) (path : Bytes) {body : Fd → Bytes → M α}
    {g : α → List Fd} (hbody : ∀ ext dir name, Led ext [] (body dir name) g) :
    Led ext [] (Root.withParent env root path body) g := by
  unfold Root.withParent
  refine (resolveParent_led env root path).bind fun pr => ?_
  obtain ⟨dir, name⟩ := pr
  cases name with
  | none => exact Led.close_then dir Led.throw
  | some name => exact (hbody _ dir name).try_then [dir] fun _ => LedP.close dir []

theorem createCall_led (env : Env) (root : Root) (dir : Fd) (name : Bytes) (ty : InodeType) :
    Led ext [] (Root.createCall env root dir name ty) fun _ => [] := by
  cases ty with
  | file perm => exact mknodat_led dir name _ _
  | directory perm => exact mkdirat_led dir name _
  | symlink target => exact symlinkat_led target dir name
  | fifo perm => exact mknodat_led dir name _ _
  | charDev perm dev => exact mknodat_led dir name _ _
  | blockDev perm dev => exact mknodat_led dir name _ _
  | hardlink target =>
    exact Root.createCall_hardlink .. ▸ withParent_led env root target fun _ olddir oldname =>
      linkat_led olddir oldname dir name 0

theorem root_create_led (env : Env) (root : Root) (path : Bytes) (ty : InodeType) :
    Led ext [] (Root.create env root path ty) fun _ => [] :=
  Root.create_eq .. ▸ withParent_led env root path fun _ dir name => createCall_led env root dir name ty

theorem root_createFile_led (env : Env) (root : Root) (path : Bytes) (flags perm : Nat) :
    Led ext [] (Root.createFile env root path flags perm) fun fd => [fd] :=
  Root.createFile_eq .. ▸ withParent_led env root path fun _ dir name =>
    Led.ite (fun _ => Led.throw) fun _ => openat_led dir name _ _

theorem root_removeInode_led (env : Env) (root : Root) (path : Bytes) (isDir : Bool) :
    Led ext [] (Root.removeInode env root path isDir) fun _ => [] :=
  Root.removeInode_eq .. ▸ withParent_led env root path fun _ dir name => unlinkat_led dir name _

theorem root_removeAll_led (env : Env) (root : Root) (path : Bytes) :
    Led ext [] (Root.removeAll env root path) fun _ => [] :=
  Root.removeAll_eq .. ▸ withParent_led env root path fun ext dir name => removeAll_led _ ext dir name

theorem root_rename_led (env : Env) (root : Root) (src dst : Bytes) (rflags : Nat) :
    Led ext [] (Root.rename env root src dst rflags) fun _ => [] := by
  unfold Root.rename
  refine (resolveParent_led env root src).bind fun pr => ?_
  obtain ⟨srcDir, srcName⟩ := pr
  cases srcName with
  | none => exact Led.close_then srcDir Led.throw
  | some srcName =>
    refine ((resolveParent_led env root dst).onErr [srcDir] (LedP.close srcDir [])).bind fun pr2 => ?_
    obtain ⟨dstDir, dstName⟩ := pr2
    cases dstName with
    | none => exact Led.closeAll_then [dstDir, srcDir] Led.throw
    | some dstName =>
      refine ((renameat2_led srcDir srcName dstDir dstName rflags).try' [dstDir, srcDir]).bind fun r => ?_
      cases r <;> exact Led.perm (.swap ..) (Led.close_then srcDir (Led.close_then dstDir (Led.ofExcept rfl)))

theorem mkdirTolerant_led (cur : Fd) (part : Bytes) (perm : Nat) :
    Led ext [] (Root.mkdirTolerant cur part perm) fun _ => [] := by
  unfold Root.mkdirTolerant
  refine ((mkdirat_led cur part perm).try' []).bind fun r => ?_
  split
  · exact Led.pure rfl
  · exact Led.ite (fun _ => Led.throw) fun _ => Led.pure rfl

theorem mkdirLoop_led (perm : Nat) (parts : List Bytes) : ∀ cur : Fd,
    Led ext [cur] (Root.mkdirLoop perm cur parts) fun fd => [fd] := by
  induction parts with
  | nil => intro cur; exact Led.pure rfl
  | cons part rest ih =>
    intro cur
    unfold Root.mkdirLoop
    refine Led.ite (fun _ => Led.close_then cur Led.throw) fun _ => ?_
    refine ((mkdirTolerant_led cur part perm).onErr [cur] (LedP.close cur [])).bind fun _ => ?_
    refine ((openat_led cur part _ 0).onErr [cur] (LedP.close cur [])).bind fun next => ?_
    exact Led.perm (.swap ..) (Led.close_then cur (ih next))

theorem partialTarget_led (env : Env) (root : Root) (path : Bytes) :
    Led ext [] (Root.partialTarget env root path) fun pr => [pr.1] := by
  unfold Root.partialTarget
  refine (resolver_resolvePartial_led env root.resolver root.fd path false).bind fun l => ?_
  cases l with
  | complete h => exact Led.pure rfl
  | part h rem e => exact Led.ite (fun _ => Led.pure rfl) fun _ => Led.close_then h Led.throw

theorem mkdirFrom_led (env : Env) (perm : Nat) (handle : Fd) (remaining : Option Bytes) :
    Led ext [handle] (Root.mkdirFrom env perm handle remaining) fun fd => [fd] := by
  unfold Root.mkdirFrom
  refine ((reopen_led env handle O_DIRECTORY).onErr [handle] (LedP.bind (LedG.frame [handle] (freeze_led handle)) fun _ => LedP.close handle [])).bind fun cur => ?_
  refine Led.ite (fun _ => Led.closeAll_then [cur, handle] Led.throw) fun _ => ?_
  exact (mkdirLoop_led perm _ cur).try_then [handle] fun _ => LedP.close handle []

theorem root_mkdirAll_led (env : Env) (root : Root) (path : Bytes) (perm : Nat) :
    Led ext [] (Root.mkdirAll env root path perm) fun fd => [fd] := by
  unfold Root.mkdirAll
  refine Led.ite (fun _ => Led.throw) fun _ => Led.ite (fun _ => Led.throw) fun _ =>
    Led.ite (fun _ => Led.throw) fun _ => ?_
  exact (partialTarget_led env root path).bind fun pr => mkdirFrom_led env perm pr.1 pr.2

end LedgerLogic
